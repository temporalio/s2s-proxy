import S2S.Model.NameMap
import S2S.Model.Acl
import Driver.Translate
/- Driver for engine "namemap" (C13, C14). -/
namespace Drv.NameMap
open S2S.NameMap

def decName (s : String) : String := if s = "-" then "" else s
def encName (s : String) : String := if s = "" then "-" else s

/-- `a:b,c:d` or `-` -/
def parseMap (s : String) : Option (List (String × String)) :=
  if s = "-" then some []
  else (s.splitOn ",").mapM fun kv =>
    match kv.splitOn ":" with
    | [k, v] => some (decName k, decName v)
    | _ => none

def insertSorted (x : String) : List String → List String
  | [] => [x]
  | y :: ys => if x < y then x :: y :: ys else y :: insertSorted x ys

def sortStrings (l : List String) : List String := l.foldl (fun acc x => insertSorted x acc) []

def step (line : String) : String :=
  match Drv.words line with
  | ["bimap", m] => match parseMap m with
    | some pairs => if (newBiMap pairs).isSome then "ok" else "conflict"
    | none => "bad-op"
  | ["startup", m] => match parseMap m with
    | some pairs => if configAccepts "" pairs then "ok" else "rejected"
    | none => "bad-op"
  | ["tr", m, n] => match parseMap m with
    | some pairs => encName (translateName pairs (decName n))
    | none => "bad-op"
  | ["rt", m, n] => match parseMap m with
    | some pairs => encName (translateName (inverse pairs) (translateName pairs (decName n)))
    | none => "bad-op"
  | ["dir", inb, m, n, which] => match parseMap m with
    | some pairs =>
      let maps := serverMaps (inb == "1") pairs
      encName (translateName (if which == "req" then maps.1 else maps.2) (decName n))
    | none => "bad-op"
  | ["keys", m, ks] => match parseMap m with
    | some pairs =>
      let fields : List (String × Unit) := ((ks.splitOn ",").filter (· ≠ "")).map (·, ())
      Drv.joinWith "," (sortStrings ((renameKeys pairs fields).map (·.1)))
    | none => "bad-op"
  | ["saapplies", full] =>
    let svc : Svc := match S2S.Acl.serviceOf full with
      | .workflow => .workflow | .admin => .admin | .other => .other
    toString (saApplies svc)
  | "sapath" :: rest =>
    match Drv.Translate.parsePath rest with
    | some (_, p) =>
      let g := S2S.Gen.TG.graph
      let tb := S2S.Gen.TG.tables
      let leafOK := match g.field? p.leafTy p.leafIdx with
        | some f => f.sa && tb.sa.contains f.go
        | none => false
      if S2S.Translate.walk g { tb with skipAttr := [] } p.steps false && leafOK then "found" else "missed"
    | none => "bad-op"
  | "valns" :: _ => Drv.TranslateVal.step line   -- value-level ops (Driver/TranslateVal.lean)
  | "valsa" :: _ => Drv.TranslateVal.step line
  | _ => "bad-op"

end Drv.NameMap
