import S2S.Model.Translate
/-!
Specification vocabulary for C12 / C16 (core Lean only): the descriptor-side oracle for
"this leaf carries a namespace name", well-formed structural paths of the regenerated type
graph, and the finite coverage obligations (`typeOK`, `Covers`) that are discharged by
`decide +kernel` over the regenerated facts.
-/
namespace S2S.Translate

/-- the oracle, independent of the code's tables: the leaf field carries a namespace name -/
def isNsLeaf (g : Graph) (ty idx : Nat) : Bool :=
  match g.field? ty idx with
  | some f => f.oracleNs || (ty == g.namespaceInfo && f.go == g.nameField)
  | none => false

/-- the steps form a path of the type graph from `cur` to `leafTy`; a DataBlob is only crossed where it
    holds serialized history events (i.e. it is not one of the reviewed non-event blobs) -/
def chain (g : Graph) (tb : Tables) : List Step → Nat → Nat → Bool
  | [], cur, leafTy => cur == leafTy
  | .field ty idx next :: rest, cur, leafTy =>
    ty == cur &&
    (match g.field? ty idx with
     | some f => f.targets.contains next
     | none => false) && chain g tb rest next leafTy
  | .blob ty idx :: rest, cur, leafTy =>
    ty == cur &&
    (match g.field? ty idx with
     | some f => f.blob && !tb.reviewedNonEventBlob.contains (ty, f.go)
     | none => false) && chain g tb rest g.eventType leafTy

/-- a structural path (any length, any nesting) from `root` to a namespace-name leaf -/
def WellFormed (g : Graph) (tb : Tables) (root : Nat) (p : Path) : Prop :=
  chain g tb p.steps root p.leafTy = true ∧ isNsLeaf g p.leafTy p.leafIdx = true

/-- per-type coverage obligation.  `mask` is the certificate for the skip shortcut: a set of types (bit
    set) that contains the attributes types of all skippable events, is closed under field targets, and
    contains no type that bears a namespace name or an event blob. -/
def typeOK (g : Graph) (tb : Tables) (mask : Nat) (t : TypeD) : Bool :=
  -- every namespace-name field is a plain Go string whose Go name is in namespaceFieldNames
  t.fields.all (fun f => !f.oracleNs || (f.goString && tb.ns.contains f.go)) &&
  -- NamespaceInfo.Name is a plain string (the visitor handles it by type)
  (t.id != g.namespaceInfo || t.fields.all (fun f => f.go != g.nameField || f.goString)) &&
  -- every DataBlob field is a recognised event blob or a reviewed non-event blob
  t.fields.all (fun f => !f.blob || tb.blob.contains f.go || tb.reviewedNonEventBlob.contains (t.id, f.go)) &&
  -- skip-shortcut certificate
  (!mask.testBit t.id ||
    (t.id != g.namespaceInfo &&
     t.fields.all (fun f => !f.oracleNs && f.targets.all mask.testBit &&
                            (!f.blob || tb.reviewedNonEventBlob.contains (t.id, f.go)))))

/-- type ids are the positions in the table (so `typeD` finds the declared entry) -/
def idsOK (types : List TypeD) : Bool := (List.range types.length).all (fun i => (types[i]?.map (·.id)) == some i)

def Covers (g : Graph) (tb : Tables) (mask : Nat) : Bool :=
  idsOK g.types && tb.skipAttr.all mask.testBit && g.types.all (typeOK g tb mask)

end S2S.Translate
