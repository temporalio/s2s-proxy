import S2S.Proofs.Acl
import S2S.Props.C12
/-!
# C16 — requests naming a namespace outside the allow-list are refused

The access-control interceptor runs the SAME reflective visitor as translation (`visitNamespace`) with a
matcher that flags every name outside the allow-list, after the translation interceptor.

* `C16_forbidden_namespace_denied`: for every policy, method of either service and request, if any name the
  visitor sees is not allowed the call is refused and nothing behind the interceptor runs (also for the empty
  name, which the code refuses under a non-empty list — stricter than required, modelled as is);
* `C16_allowed_namespaces_pass`: a workflow method off the deny-list whose names are all allowed is forwarded;
* `C16_every_namespace_field_is_seen`: on the current tree the visitor sees the name at the end of every structural
  path to a namespace field, of any depth, including inside history blobs (this is C12's coverage theorem:
  "translated" and "seen by the access matcher" are the same traversal);
* `C16_unreadable_request_denied`: a request whose history blob can neither be decoded nor repaired (so that the
  visitor fails and the names in it cannot be checked) is refused, never passed on unchecked; when the visitor succeeds
  the decision is the one on the names it saw (`C16_readable_request_decided_by_names`);
* `C16_list_namespaces_filtered`: the ListNamespaces response keeps exactly the allowed names, in order;
* the decision function has no translation-bypass input: the header cannot influence it (it only switches the
  translation interceptor off, so the check then runs on the untranslated names — modelled exactly).
-/
namespace S2S.Acl

theorem C16_forbidden_namespace_denied (p : Policy) (svc : Service) (name : String) (ns : List String) (n : String)
    (hsvc : svc = .workflow ∨ svc = .admin) (hn : n ∈ ns) (hf : isAllowed p.namespaces n = false) :
    aclUnaryOn p svc name ns = .denied := by
  -- the third test fires, and the two before it refuse as well (`ite_self`)
  have h3 : ((svc = .workflow || svc = .admin) && ns.any fun n => !isAllowed p.namespaces n) = true := by
    rw [List.any_eq_true.2 ⟨n, hn, by rw [hf]; rfl⟩]
    rcases hsvc with rfl | rfl <;> rfl
  unfold aclUnaryOn
  rw [h3, if_pos rfl, ite_self, ite_self]

theorem C16_allowed_namespaces_pass (p : Policy) (name : String) (ns : List String)
    (hall : ∀ n ∈ ns, isAllowed p.namespaces n = true) (hnot : denyList.contains name = false) :
    aclUnaryOn p .workflow name ns = .forward :=
  all_allowed_forward p .workflow name ns (fun _ => hnot) (fun h => by cases h) hall

theorem C16_list_namespaces_filtered (allowed : List String) (names : List String) :
    filterNamespaces (some allowed) names = names.filter (isAllowed allowed) ∧
    (∀ n ∈ filterNamespaces (some allowed) names, isAllowed allowed n = true) ∧
    (filterNamespaces (some allowed) names).Sublist names :=
  ⟨rfl, fun _ hn => (List.mem_filter.1 hn).2, List.filter_sublist⟩

theorem C16_unreadable_request_denied (p : Policy) (svc : Service) (name : String)
    (hsvc : svc = .workflow ∨ svc = .admin) : aclUnaryOnV p svc name none = .denied := by
  have h3 : (svc = .workflow || svc = .admin) = true := by rcases hsvc with rfl | rfl <;> rfl
  unfold aclUnaryOnV
  simp only [h3, if_true, ite_self]

theorem C16_readable_request_decided_by_names (p : Policy) (svc : Service) (name : String) (ns : List String) :
    aclUnaryOnV p svc name (some ns) = aclUnaryOn p svc name ns := rfl

end S2S.Acl

namespace S2S.Translate

theorem C16_every_namespace_field_is_seen (root : Nat) (p : Path)
    (hw : WellFormed S2S.Gen.TG.graph S2S.Gen.TG.tables root p) :
    translates S2S.Gen.TG.graph S2S.Gen.TG.tables p = true :=
  C12_every_path_translated root p hw

end S2S.Translate
