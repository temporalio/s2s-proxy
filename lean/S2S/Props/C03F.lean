import S2S.Proofs.RoutingAcksFMain
/-!
# C03F — C03's safety half (acknowledgements monotone and bounded) in runs WITH faults

Same machine as C01–C04, faults (`breakTgt`, `breakSrc`, re-opening) at ANY position of the action list, environment
`EnvOKF` (`RecvOK` ∧ `RecvFresh` for every batch).  Vocabulary: `S2S/Spec/RoutingAcksF.lean` — `curAcks σ γ s` = the
acknowledgements the CURRENT incarnation of source stream `s` has sent (`γ : AckGhost` threaded by `runAG`).

## What is FALSE of the current tree (kernel-checked below)

"Within one incarnation of the source stream the acknowledgements are non-decreasing and bounded by `lastHigh`" is FALSE
for a RESTARTED incarnation (`C03F_refuted_after_source_restart`): a fresh incarnation has `lastHigh = 0` until its first
batch, and `sendAck` clamps only when `lastHigh > 0`; a target that still holds values of the previous incarnation
(`prevAck` fall-back, ring entries) makes the fresh incarnation acknowledge 50 upstream while `lastHigh = 0` (unbounded);
the restarted source then (legitimately: `RecvOK` is relative to the fresh `lastHigh = 0`) sends a batch with a lower high
watermark 1, and the next acknowledgement passes the guard `min ≥ lastSentMin` and is CLAMPED DOWN to 1: the incarnation
sent 50, then 1.  This is a consequence of the recorded finding `C04-source-restart-forgets-targets`.

## What is TRUE (proved, `S2S/Proofs/RoutingAcksF*.lean`)

* `C03F_history_bounded_maxHigh` — every acknowledgement ever sent on `s` (any incarnation) is `≤ maxHigh s`, the largest
  high watermark any incarnation of `s` has announced (the `Ghost` of C04, threaded by `runG` along the same run);
* `C03F_incarnation_one_descent` — EXACTLY what survives of monotonicity in general: `curAcks` is the concatenation of two
  non-decreasing segments (at most ONE descent per incarnation, the one described above), the second one bounded by
  `lastHigh` while the stream is active; no descent in a first incarnation;
* `C03F_incarnation_monotone` / `C03F_incarnation_bounded` — monotone and bounded, under the side condition
  `NoSrcBreak s acts` (source stream `s` itself is never broken; target streams and OTHER source streams may break and
  reconnect at any position, targets may re-acknowledge lower levels): then `curAcks` is the whole history `acksSent`, it is
  non-decreasing and every element is `≤ lastHigh`;
* `C03F_first_incarnation` — the same, state-based: for a stream with `inc ≤ 1` (also after it broke, until it re-opens).
-/
namespace S2S.Routing

theorem C03F_runAG_state (c : Cfg) (σ : State) (γ : AckGhost) (acts : List Act) :
    (runAG c σ γ acts).1 = run c σ acts := runAG_state c σ γ acts

theorem C03F_runG_state (c : Cfg) (σ : State) (γ : Ghost) (acts : List Act) : (runG c σ γ acts).1 = run c σ acts := by
  induction acts generalizing σ γ with
  | nil => rfl
  | cons a rest ih => exact ih _ _

/-- **bounded, `maxHigh` form**: every acknowledgement EVER sent on source stream `s` — a fortiori every acknowledgement
    of the current incarnation — is at most the largest high watermark any incarnation of `s` has announced -/
theorem C03F_history_bounded_maxHigh (ns nt : Nat) (acts : List Act)
    (henv : EnvOKF Cfg.cur (State.init ns nt) {} acts) (σ σ' : State) (γ : AckGhost) (γG : Ghost)
    (hr : runAG Cfg.cur (State.init ns nt) {} acts = (σ, γ))
    (hg : runG Cfg.cur (State.init ns nt) {} acts = (σ', γG)) (s : SId) :
    (∀ v ∈ (σ.src s).acksSent, v ≤ γG.maxHighOf s) ∧ (∀ v ∈ curAcks σ γ s, v ≤ γG.maxHighOf s) := by
  have h := (AF.hist_end ns nt acts henv hr hg s).1
  exact ⟨h, fun v hv => h v (List.mem_of_mem_drop hv)⟩

/-- **monotone, exact form**: the acknowledgements of the current incarnation are two non-decreasing segments
    `pre ++ post` — at most one descent per incarnation; if there is one (`pre ≠ []`) the incarnation is a restarted one
    and, while the stream is active, everything after the descent is bounded by `lastHigh` -/
theorem C03F_incarnation_one_descent (ns nt : Nat) (acts : List Act)
    (henv : EnvOKF Cfg.cur (State.init ns nt) {} acts) (σ : State) (γ : AckGhost)
    (hr : runAG Cfg.cur (State.init ns nt) {} acts = (σ, γ)) (s : SId) :
    ∃ pre post, curAcks σ γ s = pre ++ post ∧ pre.Pairwise (· ≤ ·) ∧ post.Pairwise (· ≤ ·) ∧
      (pre ≠ [] → (σ.src s).active = true → ∀ v ∈ post, v ≤ (σ.src s).lastHigh) ∧
      (pre ≠ [] → 1 < (σ.src s).inc) := by
  obtain ⟨pre, post, h1, h2, h3, h4, h5⟩ := (AF.hist_end ns nt acts henv hr rfl s).2.split
  refine ⟨pre, post, h1, h2, h3, fun hp hact v hv => ?_, fun hp => Nat.lt_of_not_le fun hn => hp (h5 hn)⟩
  obtain ⟨g1, g2⟩ := h4 hact
  exact Int.le_trans (g1 v hv) (g2 hp).1

/-- **first incarnation** (`inc ≤ 1`: the stream was opened at most once; it may have broken since): the current
    incarnation's acknowledgements are the whole history, non-decreasing, and bounded by `lastHigh` while active -/
theorem C03F_first_incarnation (ns nt : Nat) (acts : List Act)
    (henv : EnvOKF Cfg.cur (State.init ns nt) {} acts) (σ : State) (γ : AckGhost)
    (hr : runAG Cfg.cur (State.init ns nt) {} acts = (σ, γ)) (s : SId) (hinc : (σ.src s).inc ≤ 1) :
    curAcks σ γ s = (σ.src s).acksSent ∧ (curAcks σ γ s).Pairwise (· ≤ ·) ∧
      ((σ.src s).active = true → ∀ v ∈ curAcks σ γ s, v ≤ (σ.src s).lastHigh) :=
  (AF.hist_end ns nt acts henv hr rfl s).2.first_mono hinc

/-- **C03F, monotone**: if source stream `s` itself is never broken — whatever the target streams and the other source
    streams do: break, reconnect, re-acknowledge lower levels — its acknowledgement sequence is non-decreasing -/
theorem C03F_incarnation_monotone (ns nt : Nat) (acts : List Act)
    (henv : EnvOKF Cfg.cur (State.init ns nt) {} acts) (σ : State) (γ : AckGhost)
    (hr : runAG Cfg.cur (State.init ns nt) {} acts = (σ, γ)) (s : SId) (hnb : NoSrcBreak s acts) :
    (curAcks σ γ s).Pairwise (· ≤ ·) :=
  (AF.hist_end_noSrcBreak ns nt acts henv hr s hnb).2.1

/-- **C03F, bounded**: under the same side condition every acknowledgement is at most the last exclusive high watermark
    the source announced (active or not: a stream that was never opened has sent nothing) -/
theorem C03F_incarnation_bounded (ns nt : Nat) (acts : List Act)
    (henv : EnvOKF Cfg.cur (State.init ns nt) {} acts) (σ : State) (γ : AckGhost)
    (hr : runAG Cfg.cur (State.init ns nt) {} acts = (σ, γ)) (s : SId) (hnb : NoSrcBreak s acts) :
    ∀ v ∈ curAcks σ γ s, v ≤ (σ.src s).lastHigh :=
  (AF.hist_end_noSrcBreak ns nt acts henv hr s hnb).2.2

/-- under the side condition the current incarnation's acknowledgements are the whole history -/
theorem C03F_curAcks_eq_acksSent (ns nt : Nat) (acts : List Act)
    (henv : EnvOKF Cfg.cur (State.init ns nt) {} acts) (σ : State) (γ : AckGhost)
    (hr : runAG Cfg.cur (State.init ns nt) {} acts = (σ, γ)) (s : SId) (hnb : NoSrcBreak s acts) :
    curAcks σ γ s = (σ.src s).acksSent :=
  (AF.hist_end_noSrcBreak ns nt acts henv hr s hnb).1

/-- incarnation 1 of source 0 sends task 50, target 0 confirms it (`prevAck 0 = 50`); the source stream restarts; the
    target repeats its acknowledgement: the fall-back value 50 reaches the fresh incarnation, whose `lastHigh` is 0, and
    goes upstream unclamped; the restarted source announces high watermark 1; the target repeats its acknowledgement
    once more: 50 passes the guard `≥ lastSentMin = 50` and is clamped to `lastHigh = 1` -/
def witnessRestartDescent : List Act :=
  [.openTgt 0, .startTgt 0, .replayDone 0, .openSrc 0,
   .recv 0 [(50, 0)] 51, .deliver 0 0, .take 0, .emit 0,
   .tack 0 2, .ackFwd 0 0, .ackFin 0, .rack 0,
   .breakSrc 0, .openSrc 0,
   .tack 0 2, .ackFwd 0 0, .ackFin 0, .rack 0,
   .recv 0 [] 1,
   .tack 0 2, .ackFwd 0 0, .ackFin 0, .rack 0]

/-- without `NoSrcBreak`, "monotone" and "bounded by `lastHigh`" are both FALSE: the restarted incarnation sent
    `[50, 1]`, and its `lastHigh` is 1 (already after its first acknowledgement, 50, it was 0) -/
theorem C03F_refuted_after_source_restart :
    EnvOKF Cfg.cur (State.init 1 1) {} witnessRestartDescent ∧
    curAcks (runAG Cfg.cur (State.init 1 1) {} witnessRestartDescent).1
      (runAG Cfg.cur (State.init 1 1) {} witnessRestartDescent).2 0 = [50, 1] ∧
    ¬ (curAcks (runAG Cfg.cur (State.init 1 1) {} witnessRestartDescent).1
      (runAG Cfg.cur (State.init 1 1) {} witnessRestartDescent).2 0).Pairwise (· ≤ ·) ∧
    ((runAG Cfg.cur (State.init 1 1) {} witnessRestartDescent).1.src 0).active = true ∧
    ¬ (∀ v ∈ curAcks (runAG Cfg.cur (State.init 1 1) {} witnessRestartDescent).1
      (runAG Cfg.cur (State.init 1 1) {} witnessRestartDescent).2 0,
        v ≤ ((runAG Cfg.cur (State.init 1 1) {} witnessRestartDescent).1.src 0).lastHigh) := by decide +kernel

/-- already the prefix up to the first acknowledgement of the restarted incarnation violates boundedness: `[50]` with
    `lastHigh = 0`, stream active -/
theorem C03F_refuted_bounded_before_first_batch :
    EnvOKF Cfg.cur (State.init 1 1) {} (witnessRestartDescent.take 18) ∧
    curAcks (runAG Cfg.cur (State.init 1 1) {} (witnessRestartDescent.take 18)).1
      (runAG Cfg.cur (State.init 1 1) {} (witnessRestartDescent.take 18)).2 0 = [50] ∧
    ((runAG Cfg.cur (State.init 1 1) {} (witnessRestartDescent.take 18)).1.src 0).active = true ∧
    ((runAG Cfg.cur (State.init 1 1) {} (witnessRestartDescent.take 18)).1.src 0).lastHigh = 0 := by decide +kernel

/-- the general theorems do apply to the refuting run: it is bounded by `maxHigh = 51`, and `[50] ++ [1]` is its
    one descent -/
example : (runG Cfg.cur (State.init 1 1) {} witnessRestartDescent).2.maxHighOf 0 = 51 ∧
    ((runAG Cfg.cur (State.init 1 1) {} witnessRestartDescent).1.src 0).inc = 2 ∧
    ¬ NoSrcBreak 0 witnessRestartDescent := by decide +kernel

/-- a target break: target 0 confirmed everything up to 11 and 11 went upstream; the target stream breaks and reconnects;
    the watermark 5 is replayed to the new incarnation, which acknowledges it — a LOWER level (`ackByTarget 0 = 5`);
    `sendAck` holds it back (5 < `lastSentMin` = 11) and the keep-alive repeats 11 -/
def witnessTargetReackLower : List Act :=
  [.openTgt 0, .startTgt 0, .replayDone 0, .openSrc 0,
   .recv 0 [] 5, .bcastStep 0 0, .take 0, .emit 0,
   .recv 0 [(10, 0), (11, 0)] 12, .deliver 0 0, .take 0, .emit 0,
   .tack 0 3, .ackFwd 0 0, .ackFin 0, .rack 0,
   .breakTgt 0, .openTgt 0, .startTgt 0, .replayStep 0 0, .replayDone 0, .take 0, .emit 0,
   .tack 0 1, .ackFwd 0 0, .ackFin 0, .rack 0, .tick]

example : EnvOKF Cfg.cur (State.init 1 1) {} witnessTargetReackLower ∧
    NoSrcBreak 0 witnessTargetReackLower ∧ ¬ NoFaults witnessTargetReackLower ∧
    ((runAG Cfg.cur (State.init 1 1) {} witnessTargetReackLower).1.src 0).ackByTarget = [(0, 5)] ∧
    ((runAG Cfg.cur (State.init 1 1) {} witnessTargetReackLower).1.src 0).acksSent = [11, 11] ∧
    curAcks (runAG Cfg.cur (State.init 1 1) {} witnessTargetReackLower).1
      (runAG Cfg.cur (State.init 1 1) {} witnessTargetReackLower).2 0 = [11, 11] ∧
    ((runAG Cfg.cur (State.init 1 1) {} witnessTargetReackLower).1.src 0).lastHigh = 12 := by decide +kernel

/-- … and the theorems apply to it -/
example : (curAcks (runAG Cfg.cur (State.init 1 1) {} witnessTargetReackLower).1
      (runAG Cfg.cur (State.init 1 1) {} witnessTargetReackLower).2 0).Pairwise (· ≤ ·) ∧
    ∀ v ∈ curAcks (runAG Cfg.cur (State.init 1 1) {} witnessTargetReackLower).1
      (runAG Cfg.cur (State.init 1 1) {} witnessTargetReackLower).2 0,
      v ≤ ((runAG Cfg.cur (State.init 1 1) {} witnessTargetReackLower).1.src 0).lastHigh :=
  have henv : EnvOKF Cfg.cur (State.init 1 1) {} witnessTargetReackLower := by decide +kernel
  have hnb : NoSrcBreak 0 witnessTargetReackLower := by decide +kernel
  ⟨C03F_incarnation_monotone 1 1 _ henv (runAG Cfg.cur (State.init 1 1) {} witnessTargetReackLower).1
      (runAG Cfg.cur (State.init 1 1) {} witnessTargetReackLower).2 (Prod.eta _).symm 0 hnb,
    C03F_incarnation_bounded 1 1 _ henv (runAG Cfg.cur (State.init 1 1) {} witnessTargetReackLower).1
      (runAG Cfg.cur (State.init 1 1) {} witnessTargetReackLower).2 (Prod.eta _).symm 0 hnb⟩

/-- a source restart: incarnation 1 acknowledged 11; the restarted stream re-sends task 10 (high 11), the target confirms
    it, incarnation 2 acknowledges 10: the whole history `[11, 10, 10]` is NOT monotone — the restart begins lower —
    while the current incarnation's `[10, 10]` is, and is bounded by its `lastHigh = 11` -/
def witnessSourceRestartLower : List Act :=
  [.openTgt 0, .startTgt 0, .replayDone 0, .openSrc 0,
   .recv 0 [(10, 0), (11, 0)] 12, .deliver 0 0, .take 0, .emit 0,
   .tack 0 2, .ackFwd 0 0, .ackFin 0, .rack 0,
   .breakSrc 0, .openSrc 0,
   .recv 0 [(10, 0)] 11, .deliver 0 0, .take 0, .emit 0,
   .tack 0 3, .ackFwd 0 0, .ackFin 0, .rack 0, .tick]

example : EnvOKF Cfg.cur (State.init 1 1) {} witnessSourceRestartLower ∧
    ((runAG Cfg.cur (State.init 1 1) {} witnessSourceRestartLower).1.src 0).acksSent = [11, 10, 10] ∧
    ¬ ((runAG Cfg.cur (State.init 1 1) {} witnessSourceRestartLower).1.src 0).acksSent.Pairwise (· ≤ ·) ∧
    curAcks (runAG Cfg.cur (State.init 1 1) {} witnessSourceRestartLower).1
      (runAG Cfg.cur (State.init 1 1) {} witnessSourceRestartLower).2 0 = [10, 10] ∧
    (curAcks (runAG Cfg.cur (State.init 1 1) {} witnessSourceRestartLower).1
      (runAG Cfg.cur (State.init 1 1) {} witnessSourceRestartLower).2 0).Pairwise (· ≤ ·) ∧
    ((runAG Cfg.cur (State.init 1 1) {} witnessSourceRestartLower).1.src 0).lastHigh = 11 ∧
    (runG Cfg.cur (State.init 1 1) {} witnessSourceRestartLower).2.maxHighOf 0 = 12 := by decide +kernel

/-- … and the general theorems apply to it (restarted incarnation, no descent: `pre = []`) -/
example : ∃ pre post, curAcks (runAG Cfg.cur (State.init 1 1) {} witnessSourceRestartLower).1
      (runAG Cfg.cur (State.init 1 1) {} witnessSourceRestartLower).2 0 = pre ++ post ∧
    pre.Pairwise (· ≤ ·) ∧ post.Pairwise (· ≤ ·) :=
  have henv : EnvOKF Cfg.cur (State.init 1 1) {} witnessSourceRestartLower := by decide +kernel
  let ⟨pre, post, h1, h2, h3, _⟩ := C03F_incarnation_one_descent 1 1 _ henv
    (runAG Cfg.cur (State.init 1 1) {} witnessSourceRestartLower).1
    (runAG Cfg.cur (State.init 1 1) {} witnessSourceRestartLower).2 (Prod.eta _).symm 0
  ⟨pre, post, h1, h2, h3⟩

end S2S.Routing
