import S2S.Proofs.ObserverConcMain
/-!
# C20 (concurrency clause) — bookkeeping for one stream never blocks or corrupts bookkeeping for others

In the real code every `ReportStreamValue` runs under `streamGrowLock`,
so the reports of concurrently opening/closing streams are a *sequence* of atomic `report` steps in
a scheduler-chosen order: `reports o l` (definition in `S2S/Proofs/ObserverConc.lean`, `none` iff a
step blocks on a held lock).  "Whatever the scheduler does" is `∀` over permutations of `l`.

Side conditions (all stated in the theorems, none hidden):
* `Obs.WF o` — `counters` strictly sorted by index, no zero values, every value an int32, every
  index `< len`.  It holds for the initial `{}` and is preserved by `report` (`C20C_wf_init`,
  `C20C_wf_preserved`), i.e. it is an invariant of every reachable state.
* `ValsInt32 l` — every report that passes the index guard carries an int32 `value`.  The Go
  signature is `ReportStreamValue(idx int32, value int32)`, so this is always true of the real
  code; the model's `value : Int` is wider, and for such non-int32 values order independence is
  FALSE in the model (`C20C_order_dependent_beyond_int32`): a fresh entry stores `value` unwrapped,
  an existing one stores `wrap32 (x + value)`.
-/
namespace S2S.Observer
open S2S.Shard

theorem C20C_wf_init : Obs.WF {} := wf_init

theorem C20C_wf_preserved (o o' : Obs) (idx v : Int) (r : ReportOutcome) (hwf : o.WF)
    (hv : Accepted idx → IsInt32 v) (h : report o idx v = some (o', r)) : o'.WF := by
  rcases report_cases o idx v with ⟨_, h'⟩ | ⟨_, ⟨_, h'⟩ | ⟨hl, _⟩⟩
  · rw [h'] at h; cases h; exact hwf
  · rw [h'] at h; cases h
  · obtain ⟨o₁, r₁, h₁, _, hwf₁, _⟩ := report_step o idx v hl hwf hv
    rw [h₁] at h; cases h; exact hwf₁

/-- **1.** From any unlocked state every list of reports — any indexes, any values, any order —
    runs to completion and ends unlocked: no stream's report ever blocks another's. -/
theorem C20C_never_blocks (o : Obs) (l : List (Int × Int)) (hfree : o.locked = false) :
    ∃ o', reports o l = some o' ∧ o'.locked = false := by
  induction l generalizing o with
  | nil => exact ⟨o, rfl, hfree⟩
  | cons p rest ih =>
    obtain ⟨idx, v⟩ := p
    obtain ⟨o₁, r, h, hf, _⟩ := report_total o idx v hfree
    rw [reports_cons_some h]
    exact ih o₁ hf

/-- **2.** The final `counters` (what `PrintActiveStreams` shows) do not depend on the order in
    which the scheduler runs the reports. -/
theorem C20C_counters_order_independent (o : Obs) (l₁ l₂ : List (Int × Int))
    (hfree : o.locked = false) (hwf : o.WF) (hv : ValsInt32 l₁) (hp : l₁.Perm l₂) :
    ∃ o₁ o₂, reports o l₁ = some o₁ ∧ reports o l₂ = some o₂ ∧
      o₁.locked = false ∧ o₂.locked = false ∧ o₁.WF ∧ o₂.WF ∧ o₁.counters = o₂.counters := by
  obtain ⟨o₁, h₁, hf₁, hwf₁, hval₁⟩ := reports_spec l₁ o hfree hwf hv
  obtain ⟨o₂, h₂, hf₂, hwf₂, hval₂⟩ := reports_spec l₂ o hfree hwf (valsInt32_perm hp hv)
  refine ⟨o₁, o₂, h₁, h₂, hf₁, hf₂, hwf₁, hwf₂, cwf_ext _ _ hwf₁.1 hwf₂.1 ?_⟩
  intro k
  rw [hval₁ k, hval₂ k, sumAt_perm k hp]

/-- **2, corollary** for the initial state. -/
theorem C20C_counters_order_independent_init (l₁ l₂ : List (Int × Int))
    (hv : ValsInt32 l₁) (hp : l₁.Perm l₂) :
    ∃ o₁ o₂, reports {} l₁ = some o₁ ∧ reports {} l₂ = some o₂ ∧ o₁.counters = o₂.counters := by
  obtain ⟨o₁, o₂, h₁, h₂, _, _, _, _, hc⟩ :=
    C20C_counters_order_independent {} l₁ l₂ rfl wf_init hv hp
  exact ⟨o₁, o₂, h₁, h₂, hc⟩

/-- The int32 side condition of (2) is exact for the model: with a non-int32 `value` (which the Go
    types exclude) the two orders of the same two reports give different counters. -/
theorem C20C_order_dependent_beyond_int32 :
    (reports {} [(7, 4294967296), (7, 0)]).map (·.counters) = some [] ∧
    (reports {} [(7, 0), (7, 4294967296)]).map (·.counters) = some [(7, 4294967296)] := by
  decide +kernel

/-- The slice length, unlike the counters, CAN depend on the order (growth is to `(idx+1)*9/8`,
    so growing to 2000 first and then finding 2100 already covered differs from growing to 2100). -/
theorem C20C_len_order_dependent :
    (reports {} [(2000, 1), (2100, 1)]).map (·.len) = some 2251 ∧
    (reports {} [(2100, 1), (2000, 1)]).map (·.len) = some 2363 := by
  decide +kernel

/-- **3, general form.** If the values reported for every tracked index sum to 0 in int32
    arithmetic, then from the initial state no stream is shown as active at the end. -/
theorem C20C_balanced_general (l : List (Int × Int)) (hv : ValsInt32 l)
    (hbal : ∀ i : Nat, (i : Int) ≤ maxObservedStreamIndex → wrap32 (sumAt i l) = 0) :
    ∃ o', reports {} l = some o' ∧ o'.locked = false ∧ o'.counters = [] := by
  obtain ⟨o', h, hf, hwf', hval⟩ := reports_spec l {} rfl wf_init hv
  refine ⟨o', h, hf, cwf_nil_of_val _ hwf'.1 ?_⟩
  intro k
  rw [hval k]
  have h0 : val ({} : Obs).counters k = 0 := rfl
  rw [h0, Int.zero_add]
  split
  · rename_i hk; exact hbal k hk
  · rfl

/-- **3.** `streams` lists the shard index of every stream that was opened and closed (repeats and
    rejected indexes allowed); each contributes a `+1` and a `-1`.  `junk` is any list of reports
    whose index the guard rejects (`idx < 0` or `idx > 2^20`), with arbitrary values.  Whatever
    order `l` the scheduler runs all of these in, the run completes and ends with `counters = []`. -/
theorem C20C_balanced_ends_empty (streams : List Int) (junk l : List (Int × Int))
    (hjunk : ∀ p ∈ junk, ¬ Accepted p.1)
    (hp : l.Perm ((streams.flatMap fun i => [(i, (1 : Int)), (i, (-1 : Int))]) ++ junk)) :
    ∃ o', reports {} l = some o' ∧ o'.locked = false ∧ o'.counters = [] :=
  C20C_balanced_general l (valsInt32_perm hp.symm (valsInt32_canonical streams junk hjunk)) fun i hi => by
    rw [sumAt_perm i hp, sumAt_append, sumAt_pairs, sumAt_rejected i hi junk hjunk]; rfl

/-- **4, closed form.** After any sequence of reports the entry of a tracked index `i` is the int32
    wrap of (old value + sum of the values reported *for `i`*), dropped when zero; untracked
    indexes (`> 2^20`) keep their entry. -/
theorem C20C_counter_closed_form (o : Obs) (l : List (Int × Int))
    (hfree : o.locked = false) (hwf : o.WF) (hv : ValsInt32 l) :
    ∃ o', reports o l = some o' ∧ ∀ i : Nat,
      o'.counters.lookup i =
        if (i : Int) ≤ maxObservedStreamIndex then
          (if wrap32 (val o.counters i + sumAt i l) = 0 then none
           else some (wrap32 (val o.counters i + sumAt i l)))
        else o.counters.lookup i := by
  obtain ⟨o', h, _, hwf', hval⟩ := reports_spec l o hfree hwf hv
  refine ⟨o', h, ?_⟩
  intro i
  rw [lookup_of_val _ hwf'.1, hval i]
  split
  · rfl
  · exact (lookup_of_val _ hwf.1 i).symm

/-- **4.** One stream's bookkeeping is a function of that stream's reports alone: two runs — from
    possibly different states, with possibly different reports for all other indexes, interleaved in
    any way — that agree on index `i`'s initial entry and on the sub-list of reports with index `i`
    end with the same entry for `i`. -/
theorem C20C_per_stream_view (o o' : Obs) (l l' : List (Int × Int)) (i : Nat)
    (hfree : o.locked = false) (hfree' : o'.locked = false) (hwf : o.WF) (hwf' : o'.WF)
    (hv : ValsInt32 l) (hv' : ValsInt32 l')
    (hagree : o.counters.lookup i = o'.counters.lookup i)
    (hsub : l.filter (fun p => p.1 = (i : Int)) = l'.filter (fun p => p.1 = (i : Int))) :
    ∃ o₁ o₂, reports o l = some o₁ ∧ reports o' l' = some o₂ ∧
      o₁.counters.lookup i = o₂.counters.lookup i := by
  obtain ⟨o₁, h₁, hc₁⟩ := C20C_counter_closed_form o l hfree hwf hv
  obtain ⟨o₂, h₂, hc₂⟩ := C20C_counter_closed_form o' l' hfree' hwf' hv'
  refine ⟨o₁, o₂, h₁, h₂, ?_⟩
  have hval : val o.counters i = val o'.counters i := by unfold val; rw [hagree]
  rw [hc₁ i, hc₂ i, hval, sumAt_of_filter_eq i hsub, hagree]

/-- **4, projection form.** Deleting every report of every other stream does not change `i`'s entry. -/
theorem C20C_per_stream_projection (o : Obs) (l : List (Int × Int)) (i : Nat)
    (hfree : o.locked = false) (hwf : o.WF) (hv : ValsInt32 l) :
    ∃ o₁ o₂, reports o l = some o₁ ∧
      reports o (l.filter (fun p => p.1 = (i : Int))) = some o₂ ∧
      o₁.counters.lookup i = o₂.counters.lookup i :=
  C20C_per_stream_view o o l _ i hfree hfree hwf hwf hv (valsInt32_filter _ hv) rfl
    (by rw [List.filter_filter]; simp)

/-- two orders of the same six reports, with a growth beyond 1024 in the middle: same counters
    (two streams still open: 2000 and 5), different slice length. -/
example :
    let l₁ : List (Int × Int) := [(1, 1), (2000, 1), (1, -1), (2100, 1), (2100, -1), (5, 1)]
    let l₂ : List (Int × Int) := [(5, 1), (2100, 1), (1, 1), (2000, 1), (2100, -1), (1, -1)]
    l₁.Perm l₂ ∧ ValsInt32 l₁ ∧
    (reports {} l₁).map (·.counters) = some [(5, 1), (2000, 1)] ∧
    (reports {} l₂).map (·.counters) = some [(5, 1), (2000, 1)] ∧
    (reports {} l₁).map (·.len) = some 2251 ∧
    (reports {} l₂).map (·.len) = some 2363 := by
  decide +kernel

/-- a balanced run with a close scheduled before "its" open of another stream on the same index, a
    rejected report mixed in, and a growth: ends empty and unlocked. -/
example :
    (reports {} [(3, 1), (3, 1), (-4, 1), (3, -1), (3000, 1), (1048577, -1), (3, -1), (3000, -1)]) =
      some { len := 3376, counters := [], locked := false } := by
  decide +kernel

/-- a locked observer does block (so `hfree` in (1) is not vacuous) -/
example : reports { locked := true } [(1, 1)] = none := by decide +kernel

/-- int32 wrap-around is part of the closed form: `maxInt32 + 1` wraps to `minInt32` -/
example : (reports {} [(9, 2147483647), (9, 1)]).map (·.counters) = some [(9, -2147483648)] := by
  decide +kernel

end S2S.Observer
