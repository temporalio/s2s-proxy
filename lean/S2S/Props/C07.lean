import S2S.Proofs.Shard
/-!
# C07 — LCM mode presents one consistent shard space to both clusters

Property theorems (the int32 lemmas they rest on are in `S2S/Proofs/Shard.lean`).  The model (`S2S/Model/Shard.lean`)
reproduces Go's int32 arithmetic exactly; the theorems hold for **every** pair of shard counts
`a, b ≥ 1` whose product fits in int32 (`a * b < 2^31`; the supported range is up to 16384, where
`a * b ≤ 2^28`) and every LCM shard id — no enumeration.
-/
namespace S2S.Shard

/-- The proxy's `LCM` is the mathematical least common multiple. -/
theorem C07_lcm_correct (a b : Nat) (ha : 1 ≤ a) (hb : 1 ≤ b) (h : a * b < 2147483648) :
    lcm32 (a : Int) (b : Int) = ((Nat.lcm a b : Nat) : Int) := by
  unfold lcm32
  have h0 : ¬ ((a : Int) = 0 ∨ (b : Int) = 0) := by omega
  rw [if_neg h0, gcd32_eq a b ha hb]
  rw [← Int.natCast_mul, wrap32_natCast _ h, ← Int.ofNat_tdiv]
  exact wrap32_natCast _ (Nat.lt_of_le_of_lt (Nat.lcm_le_mul (by omega) (by omega)) h)

/-- Both directions compute the same count (inbound uses `(local, remote)`, as does outbound;
    and the function itself is symmetric). -/
theorem C07_lcm_symmetric (a b : Nat) (ha : 1 ≤ a) (hb : 1 ≤ b) (h : a * b < 2147483648) :
    lcm32 (a : Int) (b : Int) = lcm32 (b : Int) (a : Int) := by
  rw [C07_lcm_correct a b ha hb h, C07_lcm_correct b a hb ha (by rw [Nat.mul_comm]; exact h),
    Nat.lcm_comm]

/-- Every LCM shard id `s ∈ [1, L]` is forwarded to exactly one real shard of the serving cluster
    (count `n ∈ {a, b}`): no panic, single-valued, and inside `1..n`. -/
theorem C07_map_single_owner (a b n s : Nat) (ha : 1 ≤ a) (hb : 1 ≤ b) (h : a * b < 2147483648)
    (hn : n = a ∨ n = b) (hs1 : 1 ≤ s) (hs : s ≤ Nat.lcm a b) :
    mapShardIDUnique (lcm32 (a : Int) (b : Int)) (n : Int) (s : Int) = some ((((s - 1) % n + 1 : Nat)) : Int)
    ∧ 1 ≤ (s - 1) % n + 1 ∧ (s - 1) % n + 1 ≤ n := by
  have hn1 : 1 ≤ n := by rcases hn with rfl | rfl <;> assumption
  have hd : n ∣ Nat.lcm a b := dvd_lcm_of hn
  have hL : Nat.lcm a b < 2147483648 := Nat.lt_of_le_of_lt (Nat.lcm_le_mul (by omega) (by omega)) h
  have hr : (s - 1) % n < n := Nat.mod_lt _ (by omega)
  refine ⟨?_, by omega, by omega⟩
  unfold mapShardIDUnique
  rw [C07_lcm_correct a b ha hb h, mapShardID_dvd _ n s hn1 hd hL hs1 hs]

/-- Hash consistency: a workflow whose 32-bit hash is `hash` lives in LCM shard `hash % L + 1`;
    the proxy forwards that shard to `hash % n + 1`, i.e. to the shard that owns the workflow under
    the serving cluster's own count — for every hash value. -/
theorem C07_hash_consistent (a b n hash : Nat) (ha : 1 ≤ a) (hb : 1 ≤ b) (h : a * b < 2147483648)
    (hn : n = a ∨ n = b) :
    mapShardIDUnique (lcm32 (a : Int) (b : Int)) (n : Int) ((hash % Nat.lcm a b + 1 : Nat) : Int)
      = some ((hash % n + 1 : Nat) : Int) := by
  have hd : n ∣ Nat.lcm a b := dvd_lcm_of hn
  have hL0 : 0 < Nat.lcm a b := Nat.lcm_pos (by omega) (by omega)
  have hlt : hash % Nat.lcm a b < Nat.lcm a b := Nat.mod_lt _ hL0
  have key := (C07_map_single_owner a b n (hash % Nat.lcm a b + 1) ha hb h hn (by omega) (by omega)).1
  rw [key, Nat.add_sub_cancel, Nat.mod_mod_of_dvd _ hd]

/-- The stream the proxy opens towards the serving cluster: the initiator's shard id is the LCM
    shard `s` itself, the server shard is the single owner, cluster ids are untouched — for the
    inbound server (`inverse = true`, serving count = local) and the outbound one (remote). -/
theorem C07_forward_metadata (lc rc : Nat) (inverse : Bool) (md : StreamMD) (s : Nat)
    (hl : 1 ≤ lc) (hr : 1 ≤ rc) (h : lc * rc < 2147483648)
    (hs : md.serverShard = (s : Int)) (hs1 : 1 ≤ s) (hsL : s ≤ Nat.lcm lc rc) :
    lcmForward (lcmParams .lcm (lc : Int) (rc : Int) inverse) md = some
      { clientCluster := md.clientCluster
        clientShard := (s : Int)
        serverCluster := md.serverCluster
        serverShard := (((s - 1) % (if inverse then lc else rc) + 1 : Nat) : Int) } := by
  have key n hn := (C07_map_single_owner lc rc n s hl hr h hn hs1 hsL).1
  unfold lcmForward lcmParams
  cases inverse <;> simp [hs, key]

/-- `DescribeCluster` reports the LCM as the peer's shard count on both servers, whatever the
    real count the serving cluster returned; the bypass header is the only way to see the raw count. -/
theorem C07_describe_both_directions (lc rc : Nat) (inverse : Bool) (backend ov : Int)
    (hl : 1 ≤ lc) (hr : 1 ≤ rc) (h : lc * rc < 2147483648) :
    describeShardCount .lcm (lcmParams .lcm (lc : Int) (rc : Int) inverse) ov false backend
      = ((Nat.lcm lc rc : Nat) : Int)
    ∧ describeShardCount .lcm (lcmParams .lcm (lc : Int) (rc : Int) inverse) ov true backend = backend := by
  unfold describeShardCount lcmParams
  simp [C07_lcm_correct lc rc hl hr h]

/-- The int32 product really does leave the claim outside the hypothesis: 65536 × 32768. -/
theorem C07_outside_supported_range : lcm32 65536 32768 = -65536 := by decide +kernel

/-- non-vacuity: 12 and 16384 (lcm 49152), shard 49152 ↦ 16384 / 12. -/
example : mapShardIDUnique (lcm32 12 16384) 12 49152 = some 12 ∧
    mapShardIDUnique (lcm32 12 16384) 16384 49152 = some 16384 ∧ (12 * 16384 < 2147483648) := by decide +kernel

end S2S.Shard
