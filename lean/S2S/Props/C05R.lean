import S2S.Proofs.RoutingRingStep
import S2S.Props.C05
/-!
# C05R — the routing model's abstract per-target ring IS the C05 log

`Model/Routing.lean` keeps, per target stream, an ABSTRACT ring `ring : List (Int × SId × Int)` and says
this is "justified by the C05 refinement theorems".  This file makes that justification a theorem.

`ringOps Cfg.cur (State.init ns nt) acts t` (`Proofs/RoutingRingSpec.lean`, ghost fold over the action
list, machine untouched) is the list of PHYSICAL ring operations (`S2S.Ring.Op`) that target `t`'s
current sender incarnation has performed: the `Append`s of every enabled `take t`, `AggregateUpTo w` of
every enabled `tack t w`, `Discard d` of every enabled `ackFin t`; reset by `openTgt t` AND by
`breakTgt t` (the model's ring is already `[]` between a break and the re-open).  For EVERY run
(faults at any position) and every target:

1. the history is inside C05's hypotheses (`Good`);
2. the abstract ring is exactly the C05 outstanding log of that history;
3. the abstract `aggregate` is exactly C05's `expected` / `expectedCount` — NO side condition
   (the abstract model does no int64 arithmetic);
4. hence (composition with C05: `S2S.Ring.Rel.aggregate_exact` / `Rel.aggregate_count` / `C05_contents_exact`) the
   PHYSICAL ring buffer of any initial capacity, driven by the same history, answers `AggregateUpTo w`
   exactly like the abstract ring whenever the code's count does not wrap (`S2S.Ring.NoWrap`: the window is
   empty or `w - lo + 1 < 2^63`), in particular under C05's `NoOverflow` — and for every `w` that is an int64
   (`C05R_physical_ring_agrees_int64`: `w < 2^63` suffices, the window starts at `lo ≥ 1`).

The one place where a discrepancy was conceivable —
`ackFin` does `ring.drop d` with `d` computed at `tack` time while `take`s may have appended since, and
C05's `Discard` clamps `d` to the window — is not one: `d ≤ ring.length` always (`C05R_discard_le`), and
`drop` and the reference clamp alike anyway.
-/
namespace S2S.Routing

open S2S.Ring (Op Entry Key Ref Good NoOverflow two63)

/-- `ringKey` is an injective embedding of sources into real shard keys -/
theorem C05R_ringKey_injective (s s' : SId) (h : ringKey s = ringKey s') : s = s' := ringKey_inj.1 h

/-- … and `ringEntry s o` is a real (non-hole) mapping with that key and original id `o` -/
theorem C05R_ringEntry_real (s : SId) (o : Int) :
    (ringEntry s o).isHole = false ∧ (ringEntry s o).key = ringKey s ∧ (ringEntry s o).task = o :=
  ⟨ringEntry_not_hole s o, rfl, rfl⟩

/-- **C05R.1**: the routing machine uses its ring inside C05's hypotheses. -/
theorem C05R_ops_are_good (ns nt : Nat) (acts : List Act) (t : TId) :
    Good {} (ringOps Cfg.cur (State.init ns nt) acts t) :=
  (tinv_reach Cfg.cur ns nt acts t).1.1

/-- **C05R.2**: the abstract ring is exactly the C05 outstanding log. -/
theorem C05R_ring_is_log (ns nt : Nat) (acts : List Act) (t : TId) :
    ((run Cfg.cur (State.init ns nt) acts).tgt t).ring.map (fun e => (e.1, ringEntry e.2.1 e.2.2)) =
      (Ref.run (ringOps Cfg.cur (State.init ns nt) acts t)).out :=
  (tinv_reach Cfg.cur ns nt acts t).1.2.out

/-- **C05R.3**: the abstract `aggregate` is C05's `expected` and `expectedCount` (no side condition). -/
theorem C05R_aggregate_is_expected (ns nt : Nat) (acts : List Act) (t : TId) (w : Int) :
    (∀ s, aget (aggregate ((run Cfg.cur (State.init ns nt) acts).tgt t).ring w).1 s =
        (Ref.run (ringOps Cfg.cur (State.init ns nt) acts t)).expected w (ringKey s)) ∧
    (aggregate ((run Cfg.cur (State.init ns nt) acts).tgt t).ring w).2 =
        (Ref.run (ringOps Cfg.cur (State.init ns nt) acts t)).expectedCount w :=
  have h := (tinv_reach Cfg.cur ns nt acts t).1.2
  ⟨h.expected w, h.expectedCount w⟩

/-- the count `ackFin` hands to `Discard` never exceeds the ring's length: it IS the number dropped -/
theorem C05R_discard_le (ns nt : Nat) (acts : List Act) (t : TId) (todo : List (SId × Int)) (d : Nat) (rec : Bool)
    (h : ((run Cfg.cur (State.init ns nt) acts).tgt t).ackPc = .forwarding todo d rec) :
    d ≤ ((run Cfg.cur (State.init ns nt) acts).tgt t).ring.length :=
  (tinv_reach Cfg.cur ns nt acts t).2 todo d rec h

/-- composition with C05, under the one condition the physical ring needs: the count does not wrap -/
theorem C05R_physical_ring_agrees_of_noWrap (ns nt : Nat) (acts : List Act) (t : TId) (cap : Int) (w : Int)
    (hw : S2S.Ring.NoWrap (Ref.run (ringOps Cfg.cur (State.init ns nt) acts t)) w) :
    (∀ s, (((S2S.Ring.new cap).run true (ringOps Cfg.cur (State.init ns nt) acts t)).aggregate w).1.lookup (ringKey s) =
        aget (aggregate ((run Cfg.cur (State.init ns nt) acts).tgt t).ring w).1 s) ∧
    (∀ k, (∀ s, k ≠ ringKey s) →
        (((S2S.Ring.new cap).run true (ringOps Cfg.cur (State.init ns nt) acts t)).aggregate w).1.lookup k = none) ∧
    (((S2S.Ring.new cap).run true (ringOps Cfg.cur (State.init ns nt) acts t)).aggregate w).2 =
        (aggregate ((run Cfg.cur (State.init ns nt) acts).tgt t).ring w).2 := by
  have hR := S2S.Ring.Rel.run_init cap _ (C05R_ops_are_good ns nt acts t)
  have h := (tinv_reach Cfg.cur ns nt acts t).1.2
  exact ⟨fun s => (hR.aggregate_exact hw _).trans (h.expected w s).symm,
    fun k hk => (hR.aggregate_exact hw k).trans (expected_other _ _ h.out w k hk),
    (hR.aggregate_count hw).trans (h.expectedCount w).symm⟩

/-- **C05R.4 (composition)**: for EVERY initial capacity, the physical `proxyIDRingBuffer` driven by the
    routing machine's history answers `AggregateUpTo w` with the same per-source values, no other keys,
    and the same count as the routing model's abstract `aggregate`. -/
theorem C05R_physical_ring_agrees (ns nt : Nat) (acts : List Act) (t : TId) (cap : Int) (w : Int)
    (hno : NoOverflow (Ref.run (ringOps Cfg.cur (State.init ns nt) acts t)) w) :
    (∀ s, (((S2S.Ring.new cap).run true (ringOps Cfg.cur (State.init ns nt) acts t)).aggregate w).1.lookup (ringKey s) =
        aget (aggregate ((run Cfg.cur (State.init ns nt) acts).tgt t).ring w).1 s) ∧
    (∀ k, (∀ s, k ≠ ringKey s) →
        (((S2S.Ring.new cap).run true (ringOps Cfg.cur (State.init ns nt) acts t)).aggregate w).1.lookup k = none) ∧
    (((S2S.Ring.new cap).run true (ringOps Cfg.cur (State.init ns nt) acts t)).aggregate w).2 =
        (aggregate ((run Cfg.cur (State.init ns nt) acts).tgt t).ring w).2 :=
  C05R_physical_ring_agrees_of_noWrap ns nt acts t cap w hno.noWrap

/-- the physical ring's non-hole contents, tagged with their slot ids, are the abstract ring -/
theorem C05R_physical_contents (ns nt : Nat) (acts : List Act) (t : TId) (cap : Int) :
    ((S2S.Ring.new cap).run true (ringOps Cfg.cur (State.init ns nt) acts t)).pairs =
      ((run Cfg.cur (State.init ns nt) acts).tgt t).ring.map (fun e => (e.1, ringEntry e.2.1 e.2.2)) := by
  rw [S2S.Ring.C05_contents_exact cap _ (C05R_ops_are_good ns nt acts t)]
  exact (C05R_ring_is_log ns nt acts t).symm

/-- **C05R.4 for every int64 watermark**: `w < 2^63` is the ONLY hypothesis (no lower bound, nothing about
    the history): the window is empty, or it starts at `lo ≥ 1`, so that `w - lo + 1 ≤ w < 2^63` does not wrap. -/
theorem C05R_physical_ring_agrees_int64 (ns nt : Nat) (acts : List Act) (t : TId) (cap : Int) (w : Int)
    (hw : w < two63) :
    (∀ s, (((S2S.Ring.new cap).run true (ringOps Cfg.cur (State.init ns nt) acts t)).aggregate w).1.lookup (ringKey s) =
        aget (aggregate ((run Cfg.cur (State.init ns nt) acts).tgt t).ring w).1 s) ∧
    (∀ k, (∀ s, k ≠ ringKey s) →
        (((S2S.Ring.new cap).run true (ringOps Cfg.cur (State.init ns nt) acts t)).aggregate w).1.lookup k = none) ∧
    (((S2S.Ring.new cap).run true (ringOps Cfg.cur (State.init ns nt) acts t)).aggregate w).2 =
        (aggregate ((run Cfg.cur (State.init ns nt) acts).tgt t).ring w).2 := by
  exact C05R_physical_ring_agrees_of_noWrap ns nt acts t cap w
    ((tinv_reach Cfg.cur ns nt acts t).1.2.lo1.imp_right fun _ => by omega)

/-! ## the bound is needed in the model (unbounded `Int`), never in the code (`w` is an int64) -/

/-- one watermark taken, then the target "acknowledges" `2^63` (not an int64): the physical count wraps
    to `-2^63` and the ring answers `(∅, 0)`, the abstract ring answers `({0 ↦ 7}, 1)`. -/
theorem C05R_bound_needed :
    let acts : List Act := [.openTgt 0, .startTgt 0, .replayDone 0, .openSrc 0, .recv 0 [] 7, .bcastStep 0 0, .take 0]
    let ops := ringOps Cfg.cur (State.init 1 1) acts 0
    ops = [.append 1 (ringEntry 0 7)] ∧
    ((S2S.Ring.new 4).run true ops).aggregate two63 = ([], 0) ∧
    aggregate ((run Cfg.cur (State.init 1 1) acts).tgt 0).ring two63 = ([(0, 7)], 1) ∧
    ¬ NoOverflow (Ref.run ops) two63 := by decide +kernel

/-- two sources, one target: a `.tasks` and a `.wm` message taken, a partial `tack`, `ackFin`, another `take` -/
def c05rDemo : List Act :=
  [.openTgt 0, .startTgt 0, .replayDone 0, .openSrc 0, .openSrc 1,
   .recv 0 [(10, 0), (11, 0)] 12, .deliver 0 0, .recv 1 [] 7, .bcastStep 1 0,
   .take 0, .emit 0, .take 0, .emit 0,
   .tack 0 2, .ackFwd 0 0, .ackFin 0,
   .recv 1 [(20, 0)] 21, .deliver 1 0, .take 0]

/-- just before the `ackFin` (the partial `tack 0 2` is in flight, `recvAck` carries `discard = 2`) -/
example :
    let acts := c05rDemo.take 15
    let σ := run Cfg.cur (State.init 2 1) acts
    let ops := ringOps Cfg.cur (State.init 2 1) acts 0
    ops = [.append 1 (ringEntry 0 10), .append 2 (ringEntry 0 11), .append 3 (ringEntry 1 7), .aggregate 2] ∧
    (σ.tgt 0).ring = [(1, 0, 10), (2, 0, 11), (3, 1, 7)] ∧
    (σ.tgt 0).ackPc = .forwarding [] 2 true ∧
    Good {} ops ∧
    (Ref.run ops).out = [(1, ringEntry 0 10), (2, ringEntry 0 11), (3, ringEntry 1 7)] ∧
    aggregate (σ.tgt 0).ring 2 = ([(0, 11)], 2) ∧
    (Ref.run ops).expected 2 (ringKey 0) = some 11 ∧ (Ref.run ops).expected 2 (ringKey 1) = none ∧
    (Ref.run ops).expectedCount 2 = 2 ∧
    ((S2S.Ring.new 1).run true ops).aggregate 2 = ([(ringKey 0, 11)], 2) := by decide +kernel

/-- the whole run: the discard dropped two entries, the next `take` appended id 4 -/
example :
    let σ := run Cfg.cur (State.init 2 1) c05rDemo
    let ops := ringOps Cfg.cur (State.init 2 1) c05rDemo 0
    ops = [.append 1 (ringEntry 0 10), .append 2 (ringEntry 0 11), .append 3 (ringEntry 1 7), .aggregate 2,
           .discard 2, .append 4 (ringEntry 1 20)] ∧
    (σ.tgt 0).ring = [(3, 1, 7), (4, 1, 20)] ∧
    Good {} ops ∧
    (Ref.run ops).out = [(3, ringEntry 1 7), (4, ringEntry 1 20)] ∧
    aggregate (σ.tgt 0).ring 4 = ([(1, 20)], 2) ∧
    (Ref.run ops).expected 4 (ringKey 1) = some 20 ∧ (Ref.run ops).expected 4 (ringKey 0) = none ∧
    (Ref.run ops).expectedCount 4 = 2 ∧ (Ref.run ops).expectedCount 3 = 1 ∧
    NoOverflow (Ref.run ops) 4 ∧
    ((S2S.Ring.new 1).run true ops).aggregate 4 = ([(ringKey 1, 20)], 2) ∧
    ((S2S.Ring.new 1).run true ops).pairs = [(3, ringEntry 1 7), (4, ringEntry 1 20)] := by decide +kernel

/-- a `breakTgt` / `openTgt` in the middle: the history restarts with the new incarnation (proxy ids from 1) -/
def c05rDemoBreak : List Act :=
  [.openTgt 0, .startTgt 0, .replayDone 0, .openSrc 0, .openSrc 1,
   .recv 0 [(10, 0), (11, 0)] 12, .deliver 0 0, .take 0, .emit 0, .tack 0 1,
   .breakTgt 0, .openTgt 0, .startTgt 0, .replayStep 0 0, .replayStep 0 1, .replayDone 0,
   .recv 1 [(20, 0)] 21, .deliver 1 0, .recv 0 [(12, 0)] 13, .deliver 0 0, .take 0, .emit 0, .take 0, .emit 0,
   .tack 0 1, .ackFwd 0 1, .ackFin 0]

/-- before the break: the first incarnation's history -/
example :
    let σ := run Cfg.cur (State.init 2 1) (c05rDemoBreak.take 10)
    let ops := ringOps Cfg.cur (State.init 2 1) (c05rDemoBreak.take 10) 0
    ops = [.append 1 (ringEntry 0 10), .append 2 (ringEntry 0 11), .aggregate 1] ∧
    (σ.tgt 0).ring = [(1, 0, 10), (2, 0, 11)] := by decide +kernel

/-- right after `breakTgt 0`: ring and history are both empty -/
example :
    let σ := run Cfg.cur (State.init 2 1) (c05rDemoBreak.take 11)
    let ops := ringOps Cfg.cur (State.init 2 1) (c05rDemoBreak.take 11) 0
    ops = [] ∧ (σ.tgt 0).ring = [] := by decide +kernel

/-- the second incarnation: ids restart at 1, one entry acknowledged and discarded -/
example :
    let σ := run Cfg.cur (State.init 2 1) c05rDemoBreak
    let ops := ringOps Cfg.cur (State.init 2 1) c05rDemoBreak 0
    ops = [.append 1 (ringEntry 1 20), .append 2 (ringEntry 0 12), .aggregate 1, .discard 1] ∧
    (σ.tgt 0).ring = [(2, 0, 12)] ∧
    Good {} ops ∧
    (Ref.run ops).out = [(2, ringEntry 0 12)] ∧
    aggregate (σ.tgt 0).ring 2 = ([(0, 12)], 1) ∧
    (Ref.run ops).expected 2 (ringKey 0) = some 12 ∧ (Ref.run ops).expectedCount 2 = 1 ∧
    ((S2S.Ring.new 1).run true ops).aggregate 2 = ([(ringKey 0, 12)], 1) := by
  decide +kernel

end S2S.Routing
