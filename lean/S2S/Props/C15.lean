import S2S.Proofs.Acl
/-!
# C15 — inbound admin calls outside the allow-list never reach the local cluster

Decision-logic theorems over `S2S/Model/Acl.lean`, for **every** allow-list (any list of
strings), every method name and every request — nothing is enumerated.  The classification of a
full gRPC method name (`serviceOf`, `methodName`: two prefix tests and the suffix after the last
'/') is executable model code compared with the real interceptor for every method of both service
descriptors by the harness; the theorems are stated over the classified form.

* `C15_unlisted_admin_denied`: an admin method outside a non-empty allow-list is refused, unary and streaming;
* `C15_namespace_lifecycle_denied`: `RegisterNamespace` / `DeprecateNamespace` are refused under every policy;
* `C15_allowed_forwarded`: a listed admin method (any, under an empty list) naming only allowed namespaces is forwarded;
* `C15_other_services_untouched`: methods of other services are forwarded;
* `C15_wiring`: only the inbound server with a configured policy applies the check.
-/
namespace S2S.Acl

theorem C15_unlisted_admin_denied (p : Policy) (name : String) (ns : List String)
    (hne : p.adminMethods ≠ []) (hnot : name ∉ p.adminMethods) :
    aclUnaryOn p .admin name ns = .denied ∧ aclStreamOn p .admin name = .denied := by
  have h : isAllowed p.adminMethods name = false :=
    Bool.eq_false_iff.2 fun e => ((isAllowed_iff _ _).1 e).elim hne hnot
  simp [aclUnaryOn, aclStreamOn, h]

theorem C15_namespace_lifecycle_denied (p : Policy) (name : String) (ns : List String)
    (h : name = "RegisterNamespace" ∨ name = "DeprecateNamespace") :
    aclUnaryOn p .workflow name ns = .denied := by
  rcases h with h | h <;> subst h <;> simp [aclUnaryOn, denyList]

theorem C15_allowed_forwarded (p : Policy) (name : String) (ns : List String)
    (hm : p.adminMethods = [] ∨ name ∈ p.adminMethods)
    (hns : ∀ n ∈ ns, isAllowed p.namespaces n = true) :
    aclUnaryOn p .admin name ns = .forward ∧ aclStreamOn p .admin name = .forward := by
  have h : isAllowed p.adminMethods name = true := (isAllowed_iff _ _).2 hm
  exact ⟨all_allowed_forward p .admin name ns nofun (fun _ => h) hns, by simp [aclStreamOn, h]⟩

/-- The policy guards the remote-facing (inbound) server only, and it is the same for both
    transports (one `buildProxyServer`): the outbound server and a connection without a policy
    forward everything; the inbound server with a policy applies `aclUnary`/`aclStream`. -/
theorem C15_wiring (configured : Option Policy) (full : String) (ns : List String) :
    handleUnary false configured full ns = .forward ∧ handleStream false configured full = .forward ∧
    handleUnary true none full ns = .forward ∧
    (∀ p, handleUnary true (some p) full ns = aclUnary p full ns ∧ handleStream true (some p) full = aclStream p full) := by
  simp [handleUnary, handleStream, serverPolicy]

/-- methods of other services are not the interceptor's business (they do not exist on the proxy) -/
theorem C15_other_services_untouched (p : Policy) (name : String) (ns : List String) :
    aclUnaryOn p .other name ns = .forward := by simp [aclUnaryOn]

example : aclUnaryOn ⟨["DescribeCluster"], []⟩ .admin "AddSearchAttributes" [] = .denied ∧
    aclUnaryOn ⟨["DescribeCluster"], []⟩ .admin "DescribeCluster" [] = .forward ∧
    aclStreamOn ⟨["DescribeCluster"], []⟩ .admin "StreamWorkflowReplicationMessages" = .denied := by
  simp [aclUnaryOn, aclStreamOn, isAllowed]

end S2S.Acl
