import S2S.Proofs.TranslatePaths
import S2S.Proofs.TranslateGraph
/-!
# C12 — namespace names are translated wherever they occur

`S2S/Gen/TG*.lean` is REGENERATED from /repo on every run: the Go type graph of every request /
response type of WorkflowService and AdminService exactly as the reflective visitor walks it
(981 struct types at the pinned versions), the descriptor-side oracle bit on every field that
carries a namespace name, and the code's own tables read from the running binary
(`namespaceFieldNames`, `dataBlobFieldNames`, the skippable-event list).

* `C12_paths_translated_of_covers` (generic, by induction over paths of ANY length and nesting):
  if the finite coverage obligations `Covers` hold for a type graph and tables, then the visitor
  translates the namespace name at the end of EVERY well-formed structural path — through repeated
  fields, maps, oneof wrappers, failure chains, links and serialized history-event blobs.
* `C12_current_tree_covers`: the obligations hold for the regenerated facts of the current tree
  (kernel evaluation over the whole table, no axioms).
* `C12_every_path_translated`: hence every path of the current tree is translated.
* `C12_shortcuts_never_change_the_result`: with the skip shortcut switched off the result is the same.
-/
namespace S2S.Translate

theorem C12_paths_translated_of_covers (g : Graph) (tb : Tables) (mask : Nat) (hc : Covers g tb mask = true)
    (root : Nat) (p : Path) (hw : WellFormed g tb root p) : translates g tb p = true :=
  translates_of_covers g tb mask hc root p hw

theorem C12_current_tree_covers :
    Covers S2S.Gen.TG.graph S2S.Gen.TG.tables S2S.Gen.TG.skipMask = true :=
  S2S.Gen.TG.covers

theorem C12_every_path_translated (root : Nat) (p : Path)
    (hw : WellFormed S2S.Gen.TG.graph S2S.Gen.TG.tables root p) :
    translates S2S.Gen.TG.graph S2S.Gen.TG.tables p = true :=
  translates_of_covers _ _ _ C12_current_tree_covers root p hw

/-- the tables with the skip shortcut disabled -/
def noShortcut (tb : Tables) : Tables := { tb with skipAttr := [] }

theorem C12_shortcuts_never_change_the_result (g : Graph) (tb : Tables) (mask : Nat) (hc : Covers g tb mask = true)
    (root : Nat) (p : Path) (hw : WellFormed g tb root p) :
    translates g tb p = translates g (noShortcut tb) p := by
  have hc' : Covers g (noShortcut tb) mask = true := by
    unfold Covers at hc ⊢
    simp only [Bool.and_eq_true] at hc ⊢
    exact ⟨⟨hc.1.1, rfl⟩, hc.2⟩
  have hw' : WellFormed g (noShortcut tb) root p :=
    ⟨(chain_congr g (noShortcut tb) tb rfl p.steps root p.leafTy).trans hw.1, hw.2⟩   -- `chain`/`isNsLeaf` do not read `skipAttr`
  rw [translates_of_covers g tb mask hc root p hw, translates_of_covers g (noShortcut tb) mask hc' root p hw']

/-- The obligations are not vacuous: a skip list naming an event whose attributes reach a namespace
    name (the shape of the finding repaired by the `fix:` commit 47b8cca) makes `Covers` false for every
    certificate that contains it, and the path-level visitor model indeed misses that namespace. -/
example :
    let g : Graph := { types := [⟨0, [⟨10, false, false, false, false, [1]⟩]⟩,          -- event: Attributes -> wrapper 1
                                  ⟨1, [⟨11, false, false, false, false, [2]⟩]⟩,          -- wrapper -> attrs 2
                                  ⟨2, [⟨12, false, false, false, false, [3]⟩]⟩,          -- attrs: Failure -> 3
                                  ⟨3, [⟨13, true, true, false, false, []⟩]⟩],            -- child failure info: Namespace
                       eventType := 0, historyType := 9, namespaceInfo := 8, nameField := 14, attributesField := 10, linksField := 15 }
    let tb : Tables := { ns := [13], blob := [], sa := [], skipAttr := [2], reviewedNonEventBlob := [] }
    let p : Path := ⟨[.field 0 0 1, .field 1 0 2, .field 2 0 3], 3, 0⟩
    Covers g tb 0b1100 = false ∧ walk g tb p.steps true = false ∧
    Covers g { tb with skipAttr := [] } 0 = true ∧ walk g { tb with skipAttr := [] } p.steps true = true := by
  decide +kernel

end S2S.Translate
