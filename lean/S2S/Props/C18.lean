import S2S.Proofs.RepairPaths
/-!
# C18 — UTF-8 repair reaches every failure message in every supported RPC type

Two layers.

* Generic (all values): `S2S/Model/RepairPaths.lean` models the generated visitor as a visitor
  driven by a set of structural path patterns.  `C18_visitor_*` say that after the visitor every
  failure whose pattern the visitor knows is valid — for any value: any list lengths, any number of
  failures at once, chains up to the supported depth — and nothing else moves.
* This tree (regenerated on every check): `S2S/Gen/RepairPaths*.lean` holds, for every root type the
  proxy can down-convert to the legacy schema (measured through the real codec) plus `HistoryEvent`
  and every other type with a case in the generated switch: the ORACLE (every structural path from
  the root to a `failure.v1.Failure`, by Go reflection over the legacy structs: fields, repeated
  fields, maps, every oneof wrapper; `Failure.Cause` is the chain) and the MEASURED set (the real
  `compat.RepairInvalidUTF8` was run on a message with invalid UTF-8 at exactly that path and repaired
  it).  `C18_oracle_covered` is the finite obligation `oracle ⊆ measured ∪ knownMissed`, checked by
  `decide +kernel` (`chunks_ok`) and lifted; `knownMissed` comes from `known_findings.json` and is empty
  when nothing is recorded, in which case `C18_full` holds (`C18_full_iff_no_findings`).
-/
namespace S2S.RepairPaths
open S2S.Utf8 S2S.Gen.RepairPaths

/-- the visitor never adds, drops, moves or relabels a failure: the occurrences after the run are the
    occurrences before, each repaired iff its pattern is in the visitor's set -/
theorem C18_visitor_is_pointwise (paths : List (List Step)) (v : Val) :
    occs (runVisitor paths v) = runFlat paths (occs v) :=
  occsFrom_visitFrom paths [] v

/-- **completeness of a visitor whose pattern set covers the value**: if every failure position of
    `v` has its pattern in `paths` and no chain exceeds the supported depth, then after the visitor
    every failure message reachable in `v` is valid UTF-8 — for every value `v`. -/
theorem C18_visitor_repairs_everything (paths : List (List Step)) (v : Val)
    (hcover : ∀ o ∈ occs v, o.1 ∈ paths) (hdepth : ∀ o ∈ occs v, o.2.length ≤ maxFailureDepth) :
    ∀ o ∈ occs (runVisitor paths v), chainValid o.2 = true := by
  intro o ho
  rw [C18_visitor_is_pointwise] at ho
  obtain ⟨c, hc, h2⟩ := mem_runFlat_iff.1 ho
  rw [h2, if_pos (hcover _ hc)]
  exact repairChain_valid c (hdepth _ hc)

/-- a failure at a position the visitor has no pattern for is left exactly as it was (so a missing
    pattern is a missed repair: the converse of the theorem above) -/
theorem C18_visitor_misses_unknown_patterns (paths : List (List Step)) (v : Val) :
    ∀ o ∈ occs v, o.1 ∉ paths → o ∈ occs (runVisitor paths v) := by
  intro o ho hp
  rw [C18_visitor_is_pointwise]
  exact mem_runFlat_iff.2 ⟨o.2, ho, by simp [hp]⟩

/-- all oracle / measured / recorded-missed (root, path) pairs of the current tree -/
def oracleAll : List PathId := oracleOf chunks
def measuredAll : List PathId := measuredOf chunks
def knownMissedAll : List PathId := knownOf chunks

/-- **every structural path from every supported root to a failure is repaired by the real code**,
    or is a finding recorded in `known_findings.json` -/
theorem C18_oracle_covered : ∀ rp ∈ oracleAll, rp ∈ measuredAll ∨ rp ∈ knownMissedAll :=
  (ok_of_chunks chunks chunks_ok).1

/-- recorded findings are genuine on this tree: oracle paths the real code does not repair
    (a stale record breaks the build instead of hiding behind KNOWN-FINDING) -/
theorem C18_known_missed_genuine : ∀ rp ∈ knownMissedAll, rp ∈ oracleAll ∧ rp ∉ measuredAll :=
  fun rp h => ⟨(ok_of_chunks chunks chunks_ok).2 rp h, known_not_measured_of_all chunks known_not_measured rp h⟩

/-- the oracle enumerates ALL structural paths: apart from `Failure.Cause` (the chain, C17 (ii)) the
    legacy struct graph below the roots has no type recursion, so the bound of 2 unrollings never cut a path -/
theorem C18_oracle_exhaustive : typeRecursionCuts = 0 := oracle_exhaustive

/-- the property as stated, without the escape hatch -/
def C18_full : Prop := ∀ rp ∈ oracleAll, rp ∈ measuredAll

/-- the full statement holds exactly when no finding is recorded (and then by `C18_oracle_covered`) -/
theorem C18_full_iff_no_findings : C18_full ↔ knownMissedAll = [] :=
  ⟨fun hfull => List.eq_nil_iff_forall_not_mem.2 fun rp hm =>
      have ⟨ho, hn⟩ := C18_known_missed_genuine rp hm
      hn (hfull rp ho),
    fun hnil rp h => (C18_oracle_covered rp h).resolve_right (hnil ▸ List.not_mem_nil)⟩

/-- every root the property quantifies over (convertible request/response types that can hold a
    failure, and HistoryEvent) reaches a failure and — unless all its paths are recorded findings —
    has a case in the generated visitor -/
theorem C18_every_root_reaches_and_is_handled :
    ∀ r ∈ propertyRoots, ∃ rp ∈ oracleAll, rp.1 = r ∧ (rp ∈ measuredAll ∨ rp ∈ knownMissedAll) := by
  intro r hr
  obtain ⟨rp, hrp, he⟩ := List.mem_map.1 ((List.isSublist_iff_sublist.1 property_roots_reach).subset hr)
  exact ⟨rp, hrp, he, C18_oracle_covered rp hrp⟩

/-- end to end, on the flat view of ANY value whose failures sit on oracle paths (labelled by their
    (root, path) id; any list lengths, all paths at once, chains within the supported depth): after a
    visitor that handles the measured paths, every failure is valid or sits on a recorded finding -/
theorem C18_all_at_once (v : List (Occ PathId))
    (hconf : ∀ o ∈ v, o.1 ∈ oracleAll) (hdepth : ∀ o ∈ v, o.2.length ≤ maxFailureDepth) :
    ∀ o ∈ runFlat measuredAll v, chainValid o.2 = true ∨ o.1 ∈ knownMissedAll := by
  intro o ho
  obtain ⟨c, hc, h2⟩ := mem_runFlat_iff.1 ho
  rcases C18_oracle_covered o.1 (hconf (o.1, c) hc) with h | h
  · rw [h2, if_pos h]
    exact Or.inl (repairChain_valid c (hdepth _ hc))
  · exact Or.inr h

-- the regenerated facts are not empty and the property's roots exist
example : oracleAll ≠ [] := by decide +kernel
example : propertyRoots ≠ [] := by decide +kernel
-- a value with two list elements, both failures invalid, one chain of depth 2: the visitor with the
-- right pattern repairs all three messages; with no pattern it repairs nothing
example :
    let v : Val := .child (.field 3) (.child .elem (.fail [[0xFF], [0x61, 0xFE]]) (.child .elem (.fail [[0xC0]]) .nil)) .nil
    occs (runVisitor [[.field 3, .elem]] v) = [([.field 3, .elem], [repl, [0x61, 0xEF, 0xBF, 0xBD]]), ([.field 3, .elem], [repl])] ∧
    occs (runVisitor [] v) = occs v := by decide

end S2S.RepairPaths
