import S2S.Proofs.NameMap
import S2S.Proofs.TranslateGraph
/-!
# C14 — search-attribute keys are renamed consistently and values are untouched

* `C14_keys_renamed_values_untouched`: for every mapping and every indexed-field map, each key goes through the
  exact-match mapping once, values and positions are carried over untouched, the size is preserved;
* `C14_no_key_lost`: for a one-to-one mapping and key sets that do not collide with mapping targets (the
  property's hypothesis) distinct keys stay distinct — the rebuilt Go map loses nothing;
* `C14_workflow_service_excluded`: the translator does not run for WorkflowService methods, it does for AdminService;
* `C14_every_container_found`: on the regenerated type graph of the current tree, every search-attributes
  container (typed `SearchAttributes` and bare `map<string,Payload>` forms) sits in a field whose Go name is in
  `searchAttributeFieldNames` (finite obligation over regenerated facts); containers inside history-event blobs are
  reached through the same blob coverage as C12;
* direction: the same `serverMaps` as namespaces (`C13_direction_roundtrip`).
-/
namespace S2S.NameMap

variable {α : Type} [DecidableEq α]

theorem C14_keys_renamed_values_untouched {β : Type} (m : List (α × α)) (fields : List (α × β)) :
    (renameKeys m fields).map (·.2) = fields.map (·.2) ∧
    (renameKeys m fields).map (·.1) = fields.map (fun p => translateName m p.1) ∧
    (renameKeys m fields).length = fields.length :=
  ⟨List.map_map, List.map_map, List.length_map _⟩

theorem C14_no_key_lost {β : Type} (m : List (α × α)) (hk : (m.map (·.1)).Nodup) (hv : (m.map (·.2)).Nodup)
    (fields : List (α × β)) (hf : (fields.map (·.1)).Nodup)
    (hcol : ∀ p ∈ fields, (∃ q ∈ m, q.1 = p.1) ∨ (∀ q ∈ m, q.2 ≠ p.1)) :
    ((renameKeys m fields).map (·.1)).Nodup := by
  rw [(C14_keys_renamed_values_untouched m fields).2.1]
  have := nodup_map_translateName m hk hv _ hf fun k hk => by
    obtain ⟨p, hp, rfl⟩ := List.mem_map.1 hk
    exact hcol p hp
  rwa [List.map_map] at this

theorem C14_workflow_service_excluded : saApplies .workflow = false ∧ saApplies .admin = true := ⟨rfl, rfl⟩

end S2S.NameMap

namespace S2S.Translate

theorem C14_every_container_found (t : TypeD) (ht : t ∈ S2S.Gen.TG.graph.types) (f : FieldD) (hf : f ∈ t.fields)
    (hs : f.sa = true) : S2S.Gen.TG.tables.sa.contains f.go = true := by
  have h := List.all_eq_true.1 (List.all_eq_true.1 S2S.Gen.TG.types_sa t ht) f hf
  rw [hs] at h
  simpa using h

end S2S.Translate
