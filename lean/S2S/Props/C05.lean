import S2S.Proofs.RingAgg
/-!
# C05 — the proxy-id table maps acknowledgements back to original ids exactly

`Ref` is the plain reference the property statement talks about: the list of *outstanding*
`(proxy id, mapping)` pairs — appended and not yet discarded — computed from the **history of
operations alone**, never from the ring's state.  The theorems say that for every capacity and
every history satisfying the property's hypotheses (`Good`: proxy ids strictly increasing —
contiguous or gapped — and real shards `≠ (0,0)`), `AggregateUpTo w` on the ring returns, for
each source shard, the maximum original id among outstanding entries with proxy id `≤ w`,
nothing for other shards, each shard once, and `count` = the number of outstanding slots `≤ w`.
-/
namespace S2S.Ring

/-- structural invariant of the ring, for every capacity and every history (no hypotheses) -/
theorem C05_wf (c : Int) (ops : List Op) : ((new c).run true ops).WF :=
  run_wf ops (new_wf c)

/-- **C05**: aggregation is exact w.r.t. the history-defined outstanding set. -/
theorem C05_aggregate_exact (c : Int) (ops : List Op) (hg : Good {} ops) (w : Int)
    (hno : NoOverflow (Ref.run ops) w) (k : Key) :
    ((((new c).run true ops).aggregate w).1.lookup k) = (Ref.run ops).expected w k :=
  (Rel.run_init c ops hg).aggregate_exact hno.noWrap k

/-- each shard appears at most once in the returned map -/
theorem C05_aggregate_nodup (c : Int) (ops : List Op) (w : Int) :
    ((((new c).run true ops).aggregate w).1.map (·.1)).Nodup :=
  aggregate_nodup _ w

/-- the count handed to `Discard` is exactly the number of outstanding slots `≤ w` -/
theorem C05_aggregate_count (c : Int) (ops : List Op) (hg : Good {} ops) (w : Int)
    (hno : NoOverflow (Ref.run ops) w) :
    (((new c).run true ops).aggregate w).2 = (Ref.run ops).expectedCount w :=
  (Rel.run_init c ops hg).aggregate_count hno.noWrap

/-- entries are neither lost, duplicated nor reordered by growth, wrap-around or discarding:
    the non-hole logical contents of the ring, tagged with their slot ids, are exactly the
    outstanding list of the history. -/
theorem C05_contents_exact (c : Int) (ops : List Op) (hg : Good {} ops) :
    ((new c).run true ops).pairs = (Ref.run ops).out :=
  (pairs_eq_pairsOf _).trans (Rel.run_init c ops hg).out

/-- the pinned tree's `Append` (no `ensureCapacity` before the final write) violated the property:
    capacity 1, append ids 1, 2, 5 — the oldest entry is overwritten.  (Fixed finding.) -/
theorem C05_refuted_without_final_ensure :
    let ops := [Op.append 1 ⟨1,1,10⟩, .append 2 ⟨1,1,11⟩, .append 5 ⟨1,1,12⟩]
    (((new 1).run false ops).aggregate 3).1.lookup (1,1) = some 12 ∧
    (Ref.run ops).expected 3 (1,1) = some 11 := by decide

/-- non-vacuity: a gapped, multi-shard, wrapped and grown history meets the hypotheses -/
example :
    let ops := [Op.append 1 ⟨1,1,10⟩, .append 2 ⟨1,2,11⟩, .discard 1, .append 5 ⟨1,1,12⟩, .append 6 ⟨2,1,7⟩]
    Good {} ops ∧ NoOverflow (Ref.run ops) 5 ∧
    (((new 2).run true ops).aggregate 5).1.lookup (1,1) = some 12 := by decide

end S2S.Ring
