import S2S.Proofs.NameMap
import S2S.Proofs.TranslateGraph
/-!
# C13 — translation touches nothing else, is invertible and points the right way

* only namespace-name leaves are ever assigned: `C13_only_namespace_fields_assigned` — for the regenerated
  type graph, every field the visitor can assign to (plain string, Go name in `namespaceFieldNames`) is a
  namespace-name field by the descriptor oracle (finite obligation over regenerated facts), and matching is
  exact (`translateName` is a lookup: `C13_unmapped_untouched`); the harness compares whole messages with an
  independent reference translation (every other field, blob bytes, sizes);
* simultaneity: a name is mapped once (`C13_single_application`: chains a→b, b→c map a to b, not c); applying the
  mapping twice is not applying it once (`C13_applied_twice_is_not_once`) unless no target is a source
  (`C13_applied_twice_is_once_when_disjoint`);
* invertibility: `C13_roundtrip` for every one-to-one mapping and every name that is not an unmapped image;
* `C13_bimap_rejects_exactly_non_injective`: `NewStaticBiMap` succeeds iff keys and values are duplicate-free, and then
  holds the configured pairs (`C13_bimap_is_the_list`);
* direction: `C13_direction_roundtrip` — requests through a server are mapped by one map and the responses by
  its inverse, opposite on the two servers, so out-and-back restores the name.
-/
namespace S2S.NameMap

variable {α : Type} [DecidableEq α]

theorem C13_unmapped_untouched (m : List (α × α)) (s : α) (h : ∀ p ∈ m, p.1 ≠ s) : translateName m s = s :=
  translateName_unmapped m s h

theorem C13_single_application (m : List (α × α)) (a b : α) (hm : (a, b) ∈ m) (hk : (m.map (·.1)).Nodup) :
    translateName m a = b :=
  translateName_mapped m a b hm hk

theorem C13_bimap_rejects_exactly_non_injective (pairs : List (α × α)) :
    (newBiMap pairs).isSome = true ↔ (pairs.map (·.1)).Nodup ∧ (pairs.map (·.2)).Nodup :=
  newBiMap_isSome_iff pairs

theorem C13_bimap_is_the_list (pairs m : List (α × α)) (h : newBiMap pairs = some m) : m = pairs :=
  newBiMap_eq pairs m h

theorem C13_roundtrip (m : List (α × α)) (hk : (m.map (·.1)).Nodup) (hv : (m.map (·.2)).Nodup) (s : α)
    (hs : (∃ p ∈ m, p.1 = s) ∨ (∀ p ∈ m, p.2 ≠ s)) :
    translateName (inverse m) (translateName m s) = s :=
  translateName_inverse m hk hv s hs

theorem C13_direction_roundtrip (l2r : List (α × α)) (hk : (l2r.map (·.1)).Nodup) (hv : (l2r.map (·.2)).Nodup) (s : α)
    (hs : (∃ p ∈ l2r, p.1 = s) ∨ (∀ p ∈ l2r, p.2 ≠ s)) :
    -- a local name leaves through the outbound server's request map and comes back through its response map
    translateName (serverMaps false l2r).2 (translateName (serverMaps false l2r).1 s) = s ∧
    -- the two servers use opposite maps
    (serverMaps true l2r).1 = (serverMaps false l2r).2 ∧ (serverMaps true l2r).2 = (serverMaps false l2r).1 := by
  refine ⟨?_, rfl, rfl⟩
  simpa [serverMaps] using translateName_inverse l2r hk hv s hs

/-- "exactly once" matters: with a mapping whose targets are sources too (a chain `a ↦ b ↦ c`, which the start-up validation
    accepts), translating a name twice is NOT translating it once — a second pass over an already translated message (a
    retry that re-enters the translation, a field reached by two walks) sends `a` to `c`. (Seeds C12f, C13f, C14g.) -/
theorem C13_applied_twice_is_not_once (m : List (α × α)) (a b c : α) (hab : (a, b) ∈ m) (hbc : (b, c) ∈ m)
    (hk : (m.map (·.1)).Nodup) (hne : c ≠ b) :
    translateName m (translateName m a) = c ∧ translateName m (translateName m a) ≠ translateName m a := by
  rw [translateName_mapped m a b hab hk, translateName_mapped m b c hbc hk]
  exact ⟨rfl, hne⟩

/-- … and it is harmless exactly when no target is a source: then a second pass finds nothing to map -/
theorem C13_applied_twice_is_once_when_disjoint (m : List (α × α)) (hk : (m.map (·.1)).Nodup)
    (hdis : ∀ p ∈ m, ∀ q ∈ m, q.1 ≠ p.2) (s : α) :
    translateName m (translateName m s) = translateName m s := by
  by_cases hs : ∃ p ∈ m, p.1 = s
  · obtain ⟨p, hp, rfl⟩ := hs
    rw [translateName_mapped m p.1 p.2 hp hk]
    exact translateName_unmapped m p.2 (hdis p hp)
  · have h1 : translateName m s = s := translateName_unmapped m s (fun p hp h => hs ⟨p, hp, h⟩)
    rw [h1, h1]

example : configAccepts "" [("a", "b"), ("b", "c")] = true ∧
    translateName [("a", "b"), ("b", "c")] (translateName [("a", "b"), ("b", "c")] "a") = "c" := by decide +kernel

end S2S.NameMap

namespace S2S.Translate

theorem C13_only_namespace_fields_assigned (t : TypeD) (ht : t ∈ S2S.Gen.TG.graph.types) (f : FieldD) (hf : f ∈ t.fields)
    (hs : f.goString = true) (hn : S2S.Gen.TG.tables.ns.contains f.go = true) : f.oracleNs = true := by
  have h := List.all_eq_true.1 (List.all_eq_true.1 S2S.Gen.TG.types_exact t ht) f hf
  rw [hs, hn] at h
  simpa using h

end S2S.Translate
