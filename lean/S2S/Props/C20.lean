import S2S.Proofs.Observer
/-!
# C20 — no stream-open metadata can wedge or crash replication-stream service

Model: `S2S/Model/Observer.lean` (`parseInt32`, `ReportStreamValue`
with its lock, the handler prologue/epilogue with panic capture).  The quantifier "all int32
ids and non-numeric values" is a plain ∀ over header *strings* here.
-/
namespace S2S.Observer
open S2S.Shard

/-- `ReportStreamValue` of the current tree never panics, never blocks when the lock is free,
    and always leaves the lock free — for every `idx` and `value` (all of `Int`, hence all int32). -/
theorem C20_report_total (o : Obs) (idx value : Int) (hfree : o.locked = false) :
    ∃ o' r, report o idx value = some (o', r) ∧ o'.locked = false ∧ r ≠ .panicLocked :=
  report_total o idx value hfree

/-- Bookkeeping for one stream never corrupts another's: a report for `idx` changes no counter
    of any other index. -/
theorem C20_others_unchanged (o o' : Obs) (idx value : Int) (r : ReportOutcome)
    (h : report o idx value = some (o', r)) (j : Nat) (hj : (j : Int) ≠ idx) :
    o'.counters.lookup j = o.counters.lookup j := by
  rcases report_cases o idx value with ⟨_, h'⟩ | ⟨h0, ⟨_, h'⟩ | ⟨_, len', _, _, h'⟩⟩ <;> rw [h'] at h <;> cases h
  · rfl
  · exact addCounter_lookup_ne _ _ _ _ (by omega)

/-- **C20**: for every four header strings (negative, zero, huge, malformed, absent …), every
    stream mode and every LCM parameter pair, an open on an un-wedged observer ends as *served*
    or *rejected with an error* — never wedged — and leaves the observer un-wedged, so (by
    induction over any sequence of opens, `C20_sequence`) streams opened afterwards are served
    normally. -/
theorem C20_open_never_wedges (o : Obs) (mode : Mode) (p : LCMParams) (cc cs sc ss : String)
    (hfree : o.locked = false) :
    (openStream report o mode p cc cs sc ss).2 ≠ .wedged ∧
    (openStream report o mode p cc cs sc ss).1.locked = false := by
  cases hdec : decodeMD cc cs sc ss with
  | error e => unfold openStream; rw [hdec]; cases e <;> exact ⟨by simp, hfree⟩
  | ok md =>
    obtain ⟨o2, hf2, e⟩ := openStream_decoded o mode p hfree hdec
    rw [e]; exact ⟨by cases mode <;> simp <;> split <;> decide, hf2⟩

/-- Any sequence of opens, whatever their metadata, keeps the observer un-wedged. -/
theorem C20_sequence (opens : List (Mode × LCMParams × String × String × String × String)) (o : Obs)
    (hfree : o.locked = false) :
    (opens.foldl (fun o x => (openStream report o x.1 x.2.1 x.2.2.1 x.2.2.2.1 x.2.2.2.2.1 x.2.2.2.2.2).1) o).locked = false := by
  induction opens generalizing o with
  | nil => exact hfree
  | cons x xs ih =>
    rw [List.foldl_cons]
    exact ih _ (C20_open_never_wedges o _ _ _ _ _ _ hfree).2

/-- A well-formed open (default or routing mode, decimal ids, shard id within the tracked range)
    after any such sequence is served, and is counted while it is open. -/
theorem C20_wellformed_served (o : Obs) (mode : Mode) (p : LCMParams) (cc cs sc ss : String) (md : StreamMD)
    (hfree : o.locked = false) (hmode : mode ≠ .lcm) (hdec : decodeMD cc cs sc ss = .ok md) :
    (openStream report o mode p cc cs sc ss).2 = .served := by
  obtain ⟨o2, _, e⟩ := openStream_decoded o mode p hfree hdec
  rw [e]; cases mode <;> first | rfl | exact absurd rfl hmode

/-- The tree before the `fix:` commit violated the property: shard id 238609294 makes
    `(idx+1)*9` wrap negative, the observer panics with the lock held, and the next, perfectly
    well-formed, open is wedged.  (Fixed finding; `reportOld` mirrors the old code.) -/
theorem C20_refuted_before_fix :
    let o1 := (openStream reportOld {} .default ⟨0, 0⟩ "1" "1" "2" "238609294").1
    o1.locked = true ∧ (openStream reportOld o1 .default ⟨0, 0⟩ "1" "1" "2" "1").2 = .wedged := by
  decide +kernel

/-- non-vacuity: the same two opens on the current code are rejected-or-served and then served. -/
example :
    let r1 := openStream report {} .default ⟨0, 0⟩ "1" "1" "2" "238609294"
    r1.2 = .served ∧ (openStream report r1.1 .default ⟨0, 0⟩ "1" "1" "2" "1").2 = .served := by
  decide +kernel

end S2S.Observer
