import S2S.Props.C01
/-!
# C04 — stream failures never turn unconfirmed tasks into acknowledged ones

Same machine as C01 plus the fault actions `breakTgt`, `breakSrc` and re-opening, at **any**
position of the action list (the crash-point quantifier is the universally quantified list).
`Confirmed` counts an acknowledgement by *any* incarnation of the target stream.

The full statement `C04_full` is FALSE of the current tree.  Two independent counterexamples are
kernel-checked below and replayed on the real code by the harness on every run (known findings
`C04-target-break-loses-inflight` and `C04-source-restart-forgets-targets`, see DESIGN.md §4);
neither has a small repair.  What is proved: (1) `C04_modulo_known_findings` — for runs with breaks and
re-opens at ANY position, every acknowledgement sent upstream covers only tasks that are confirmed or
out of reach in exactly one of the two recorded ways, i.e. the two findings are the ONLY ways a stream
failure turns an unconfirmed task into an acknowledged one (so any other violation the harness ever
observes is a new defect, not an instance of a known one); (2) all fault-free runs (`C04_partial_fault_free`, C01).
-/
namespace S2S.Routing

/-- the full property: for every configuration and every run with faults anywhere -/
def C04_full (c : Cfg) : Prop :=
  ∀ ns nt acts, EnvOK c (State.init ns nt) acts → AcksSafeAlong c (State.init ns nt) acts

/-- finding (a): task 10 is sent to the target, the target stream breaks before acknowledging it and
    reconnects; the source's next watermark is broadcast, the new incarnation acknowledges it, and
    the proxy acknowledges 12 upstream although no incarnation ever confirmed task 10. -/
def witnessTargetBreak : List Act :=
  [.openTgt 0, .startTgt 0, .replayDone 0, .openSrc 0,
   .recv 0 [] 10, .bcastStep 0 0, .take 0, .emit 0,
   .recv 0 [(10, 0)] 12, .deliver 0 0, .take 0, .emit 0,
   .breakTgt 0, .openTgt 0, .startTgt 0, .replayStep 0 0, .replayDone 0, .take 0, .emit 0,
   .recv 0 [] 12, .bcastStep 0 0, .take 0, .emit 0,
   .tack 0 2, .ackFwd 0 0, .ackFin 0, .rack 0]

/-- finding (b): task 16 sits unconfirmed on target 1; the *source* stream restarts, so the new
    receiver incarnation knows of no target; target 0 repeats an old acknowledgement, whose fallback
    value 18 is then the minimum over a one-element map and goes upstream. -/
def witnessSourceRestart : List Act :=
  [.openTgt 0, .startTgt 0, .replayDone 0, .openTgt 1, .startTgt 1, .replayDone 1, .openSrc 0,
   .recv 0 [(16, 1), (18, 0)] 19, .deliver 0 1, .deliver 0 0, .take 0, .emit 0, .take 1, .emit 1,
   .tack 0 2, .ackFwd 0 0, .ackFin 0, .rack 0,
   .breakSrc 0, .openSrc 0,
   .tack 0 2, .ackFwd 0 0, .ackFin 0, .rack 0]

theorem C04_refuted_target_break :
    EnvOK Cfg.cur (State.init 1 1) witnessTargetBreak ∧
    ¬ AcksSafeAlong Cfg.cur (State.init 1 1) witnessTargetBreak := by decide +kernel

theorem C04_refuted_source_restart :
    EnvOK Cfg.cur (State.init 1 2) witnessSourceRestart ∧
    ¬ AcksSafeAlong Cfg.cur (State.init 1 2) witnessSourceRestart := by decide +kernel

theorem C04_refuted : ¬ C04_full Cfg.cur := fun h =>
  C04_refuted_target_break.2 (h 1 1 witnessTargetBreak C04_refuted_target_break.1)

/-- partial: fault-free runs (this is C01). -/
theorem C04_partial_fault_free (ns nt : Nat) (acts : List Act)
    (henv : EnvOK Cfg.cur (State.init ns nt) acts) (hnf : NoFaults acts) :
    AcksSafeAlong Cfg.cur (State.init ns nt) acts :=
  C01_never_acks_unconfirmed ns nt acts henv hnf

/-! ## C04 modulo the recorded findings

What IS true of the current tree with faults anywhere (proved in `S2S/Proofs/RoutingFault*.lean`, statement in
`S2S/Spec/RoutingFaults.lean`): under the environment hypothesis `EnvOKF` (`RecvOK` for every batch, plus
`RecvFresh`: a restarted source stream re-sends tasks it sent before or sends tasks at/above every watermark it
has announced), every acknowledgement the proxy sends upstream covers only tasks that are `Confirmed` by their
target stream or `Excused` in one of the two recorded ways — (b) the task was (also) received by an earlier
incarnation of the source stream (`C04-source-restart-forgets-targets`), or (a) it was handed to an
incarnation of its target stream that has broken since (`C04-target-break-loses-inflight`). -/

/-- **C04 modulo the recorded findings**: for every run (breaks and re-opens at any position) satisfying
    `EnvOKF`, every acknowledgement sent upstream covers only confirmed or excused tasks. -/
theorem C04_modulo_known_findings (ns nt : Nat) (acts : List Act)
    (henv : EnvOKF Cfg.cur (State.init ns nt) {} acts) :
    AcksSafeFAlong Cfg.cur (State.init ns nt) {} acts :=
  acks_safeF_of_inv cur_seedAcks _ _ (invF_init ns nt) acts henv

/-- a third trace: a stale ring entry of the previous source incarnation (watermark 20) acknowledges a task
    (10) that the restarted source re-sent; excused as (b). -/
def witnessStaleRing : List Act :=
  [.openTgt 0, .startTgt 0, .replayDone 0, .openSrc 0,
   .recv 0 [(10, 0)] 12, .deliver 0 0, .take 0, .emit 0,
   .breakTgt 0, .openTgt 0, .startTgt 0, .replayStep 0 0, .replayDone 0,
   .recv 0 [] 20, .bcastStep 0 0, .take 0, .emit 0,
   .breakSrc 0, .openSrc 0,
   .recv 0 [(10, 0)] 12, .deliver 0 0, .take 0, .emit 0,
   .tack 0 1, .ackFwd 0 0, .ackFin 0, .rack 0]

/-- a faulty run (target and source stream both break and re-open) in which an acknowledgement is sent and
    the task it covers is really confirmed -/
def witnessFaultyConfirmed : List Act :=
  [.openTgt 0, .startTgt 0, .replayDone 0, .openSrc 0,
   .recv 0 [] 5, .bcastStep 0 0, .take 0, .emit 0,
   .breakTgt 0, .breakSrc 0, .openTgt 0, .startTgt 0, .replayDone 0, .openSrc 0,
   .recv 0 [(10, 0)] 12, .deliver 0 0, .take 0, .emit 0,
   .recv 0 [] 12, .bcastStep 0 0, .take 0, .emit 0,
   .tack 0 3, .ackFwd 0 0, .ackFin 0, .rack 0]

/-- non-vacuity (a): the recorded witness satisfies the stronger environment, hence the modulo statement,
    while it violates the plain one — the excuse is really used -/
example : EnvOKF Cfg.cur (State.init 1 1) {} witnessTargetBreak ∧
    AcksSafeFAlong Cfg.cur (State.init 1 1) {} witnessTargetBreak ∧
    ¬ AcksSafeAlong Cfg.cur (State.init 1 1) witnessTargetBreak :=
  have h : EnvOKF Cfg.cur (State.init 1 1) {} witnessTargetBreak := by decide +kernel
  ⟨h, C04_modulo_known_findings 1 1 _ h, C04_refuted_target_break.2⟩

/-- non-vacuity (b) -/
example : EnvOKF Cfg.cur (State.init 1 2) {} witnessSourceRestart ∧
    AcksSafeFAlong Cfg.cur (State.init 1 2) {} witnessSourceRestart ∧
    ¬ AcksSafeAlong Cfg.cur (State.init 1 2) witnessSourceRestart :=
  have h : EnvOKF Cfg.cur (State.init 1 2) {} witnessSourceRestart := by decide +kernel
  ⟨h, C04_modulo_known_findings 1 2 _ h, C04_refuted_source_restart.2⟩

/-- non-vacuity, third trace (stale ring entry after a source restart) -/
example : EnvOKF Cfg.cur (State.init 1 1) {} witnessStaleRing ∧
    AcksSafeFAlong Cfg.cur (State.init 1 1) {} witnessStaleRing ∧
    ¬ AcksSafeAlong Cfg.cur (State.init 1 1) witnessStaleRing :=
  have h : EnvOKF Cfg.cur (State.init 1 1) {} witnessStaleRing := by decide +kernel
  ⟨h, C04_modulo_known_findings 1 1 _ h, by decide +kernel⟩

/-- the modulo statement is also directly checkable on the three traces (independent of the proof) -/
example : AcksSafeFAlong Cfg.cur (State.init 1 1) {} witnessTargetBreak ∧
    AcksSafeFAlong Cfg.cur (State.init 1 2) {} witnessSourceRestart ∧
    AcksSafeFAlong Cfg.cur (State.init 1 1) {} witnessStaleRing := by decide +kernel

/-- a faulty run where an acknowledgement IS sent (12) and the task it covers (10, owned by target 0) is
    `Confirmed`, not merely excused: the conclusion is not satisfied by excuses alone -/
example :
    ¬ NoFaults witnessFaultyConfirmed ∧
    EnvOKF Cfg.cur (State.init 1 1) {} witnessFaultyConfirmed ∧
    AcksSafeFAlong Cfg.cur (State.init 1 1) {} witnessFaultyConfirmed ∧
    AcksSafeAlong Cfg.cur (State.init 1 1) witnessFaultyConfirmed ∧
    (let r := runG Cfg.cur (State.init 1 1) {} witnessFaultyConfirmed
     (r.1.src 0).acksSent = [12] ∧ (r.1.src 0).received = [(10, 0)] ∧
     Confirmed r.1 0 10 0 ∧ ¬ Excused r.1 r.2 0 (10, 0)) := by decide +kernel

end S2S.Routing
