import S2S.Proofs.ForwarderSafe
import S2S.Proofs.ForwarderLive
/-!
# C06 — pass-through streams relay both directions faithfully and end together

Model: `S2S/Model/Forwarder.lean` — `StreamForwarder.Run` with its six goroutines (handler, two
relay loops, two `startListener` goroutines, the `CloseSend` goroutine), the shutdown latch, the
outgoing context, the 1 s `CloseSend` guard; one `Act` = one atomic step of one goroutine or of
the environment (peers, operator, clock).  Every theorem quantifies over **every** environment
`e : Env` it does not constrain and **every** list of actions from the initial state: all message
sequences in both directions, every ending kind (`push d .eof/.err/.unknown`, `sendFail d`,
`iniCancel`, `shutdown`) at every position, every interleaving of the two directions.

Faithfulness (any environment, no hypothesis):
* `C06_relay_prefix` — what a peer received is a prefix of what the other peer sent (payloads are
  carried by identity: in order, nothing duplicated, nothing invented).
* `C06_relay_exact_while_running`, `C06_relay_exact_until_latch` — while a direction relays
  (its loop alive, latch not set) the account is exact: sent = received ++ (≤ 2 messages in the
  proxy's hands) ++ still queued on the stream.  Nothing is skipped or reordered.

Ending together (under `GrpcStreamEnv`: context cancellation unblocks a client `Recv`, handler
return cancels the server stream, `CloseSend` returns; a source that ignores the half-close is
ALLOWED) — and only while NO PEER IS STALLED (`Unstalled`): a gRPC `Send` blocks while the
receiving peer does not read (`Act.stall d` / `Act.unstall d`, flag `Dir.stalled`), and a relay
loop blocked in `Send` looks neither at its channel nor at the latch:
* `C06_every_schedule_terminates` — every internal action strictly decreases `mu`: whatever the Go
  scheduler and `select` do, the proxy side runs out of steps (needs no hypothesis on gRPC, and
  none on stalls: a blocked `Send` only removes steps).
* `C06_quiescent_ended_is_done` — a reachable state in which either side has ended (`Ending`), in
  which no goroutine can move and in which no peer is stalled is `Done`: both loops finished, latch
  set, `CloseSend` attempted, outgoing context cancelled, handler returned, all six goroutines gone.
  The hypothesis is about THAT state only (peers may have been stalled and unstalled before).
* `C06_quiescent_ended_done_iff_not_blocked` — exactly: such a state (stalled or not) is `Done` iff
  no relay loop sits in a blocked `Send` (`blockedInSend`); a blocked `Send` is the ONLY way a
  pass-through stream with an ending fails to end.
* `C06_every_schedule_ends_together` — hence every maximal run without a `stall` from any
  reachable state with an ending and no stalled peer finishes `Done`.
* `C06_ends_together` — in particular the deterministic scheduler `settle` with fuel `mu σ`.
* `C06_*_no_send_can_block` — the same under the weaker `NoSendCanBlock` (a stalled peer whose stream
  is already done / broken / cancelled cannot block a `Send`); `C06_cancel_ends_together_even_stalled`:
  the initiator going away ends every stream together, whoever is stalled.
* `C06_stuck_behind_blocked_send`, `C06_stuck_behind_blocked_send_i` — the hypothesis is needed: the
  source ends (EOF) while `forwardReplicationMessages` is blocked in `targetStreamServer.Send` to an
  initiator that does not read (resp. the initiator half-closes while `forwardAcks` is blocked in
  `sourceStreamClient.Send`): the listener picks the EOF up and then nothing moves, latch not set,
  handler not returned.  `C06_unstall_resumes`: as soon as the peer reads again the message goes
  through and everything ends together.  `C06_cancel_unblocks_blocked_send`: a cancelled context
  makes the blocked `Send` return an error; the stream ends together with the peer still stalled.

Excluded environments (each hypothesis of `GrpcStreamEnv` is needed; kernel-checked witnesses):
`C06_stuck_without_handler_return_cancel`, `C06_stuck_without_ctx_cancel`,
`C06_closeSend_guard_leak` (the `CloseSend` goroutine is leaked for good when the 1 s guard
fires — the send on the unbuffered `closeSent` channel has no receiver any more).
Not a hypothesis of `GrpcStreamEnv` but of the same kind: `C06_shutdown_needs_conn_close` (the switch
`shutdownClosesConn`; the handler never looks at `lifetime`, so without it a shutdown does not make the stream `Ending`).
-/
namespace S2S.Forwarder

/-- **(a)** in every reachable state, what each peer received is a prefix of what the other peer sent. -/
theorem C06_relay_prefix (e : Env) (acts : List Act) (d : D) :
    ((run (State.init e) acts).dir d).out <+: ((run (State.init e) acts).dir d).sent :=
  (acc_reach e acts d).out_prefix

/-- **(b)** while direction `d` is relaying (loop alive, listener not told to stop) the account is exact:
    everything sent = everything received ++ the values in the loop's and the listener's hand
    (at most two) ++ what the stream has not delivered yet. -/
theorem C06_relay_exact_while_running (e : Env) (acts : List Act) (d : D)
    (hr : ((run (State.init e) acts).dir d).running = true) :
    ((run (State.init e) acts).dir d).sent =
      ((run (State.init e) acts).dir d).out ++ ((run (State.init e) acts).dir d).loop.hand ++
      ((run (State.init e) acts).dir d).lis.hand ++ dataIds ((run (State.init e) acts).dir d).queue ∧
    ((run (State.init e) acts).dir d).loop.hand.length + ((run (State.init e) acts).dir d).lis.hand.length ≤ 2 :=
  ⟨(acc_reach e acts d).exact hr, hand_length_le _⟩

/-- **(b′)** the same, phrased with the latch: as long as the latch is not set, a loop that has not
    stopped loses nothing. -/
theorem C06_relay_exact_until_latch (e : Env) (acts : List Act) (d : D)
    (hl : (run (State.init e) acts).latch = false)
    (ha : ((run (State.init e) acts).dir d).loop.alive = true) :
    ((run (State.init e) acts).dir d).sent =
      ((run (State.init e) acts).dir d).out ++ ((run (State.init e) acts).dir d).loop.hand ++
      ((run (State.init e) acts).dir d).lis.hand ++ dataIds ((run (State.init e) acts).dir d).queue := by
  apply (acc_reach e acts d).exact
  have hc := ctl_reach e acts
  simp only [Dir.running, ha, Bool.true_and, bne_iff_ne, ne_eq]
  intro hx
  have := hc.lisExit_latch d hx
  rw [hl] at this; cases this

/-- every internal action (any goroutine of the proxy, any gRPC reaction) strictly decreases `mu`:
    every schedule terminates. -/
theorem C06_every_schedule_terminates (e : Env) (acts : List Act) (a : Act) (σ' : State)
    (ha : a.isInternal = true) (hs : step (run (State.init e) acts) a = some σ') :
    mu σ' < mu (run (State.init e) acts) :=
  mu_decreases_ctl (ctl_reach e acts) ha (.of_step hs)

/-- exactly: a reachable state with an ending in which nothing can move (peers stalled or not) is
    `Done` iff no relay loop is blocked in `Send`. -/
theorem C06_quiescent_ended_done_iff_not_blocked (e : Env) (acts : List Act) (henv : GrpcStreamEnv e)
    (he : Ending (run (State.init e) acts)) (hq : Quiescent (run (State.init e) acts)) :
    Done (run (State.init e) acts) ↔ ∀ d, blockedInSend (run (State.init e) acts) d = false :=
  quiescent_ending_done_iff (ctl_reach e acts) (by rw [run_env]; exact henv) he hq

/-- a reachable state with an ending in which nothing can move is `Done`. -/
theorem C06_quiescent_ended_is_done (e : Env) (acts : List Act) (henv : GrpcStreamEnv e)
    (he : Ending (run (State.init e) acts)) (hq : Quiescent (run (State.init e) acts))
    (hu : Unstalled (run (State.init e) acts)) :
    Done (run (State.init e) acts) :=
  (C06_quiescent_ended_done_iff_not_blocked e acts henv he hq).2 (unstalled_not_blocked hu)

/-- **(c), all schedules**: from EVERY reachable state in which either side has ended and no `Send`
    CAN block (`NoSendCanBlock`: every stalled peer's stream is already done / broken / cancelled, so a
    `Send` to it returns an error; whatever happened before: `acts` may stall and unstall), every
    maximal run (`sched`, any order) in which no peer stalls finishes `Done`. -/
theorem C06_every_schedule_ends_together_no_send_can_block (e : Env) (acts sched : List Act) (henv : GrpcStreamEnv e)
    (he : Ending (run (State.init e) acts))
    (hu : NoSendCanBlock (run (State.init e) acts)) (hns : ∀ d, Act.stall d ∉ sched)
    (hq : Quiescent (run (State.init e) (acts ++ sched))) :
    Done (run (State.init e) (acts ++ sched)) := by
  refine (C06_quiescent_ended_done_iff_not_blocked e _ henv ?_ hq).2 (noSendCanBlock_not_blocked ?_)
  · rw [run_append]
    exact ending_run sched he
  · rw [run_append]
    exact noSendCanBlock_run sched hu hns

/-- `settle` is a composition of internal fine steps (so the theorems of this file apply to the driver's big steps). -/
theorem C06_settle_is_run (fuel : Nat) (σ : State) :
    ∃ sched : List Act, (∀ a ∈ sched, a.isInternal = true) ∧ settle fuel σ = run σ sched := by
  fun_induction settle fuel σ with
  | case1 σ => exact ⟨[], by simp, rfl⟩
  | case2 fuel σ σ' hf ih =>
    obtain ⟨a, ha, hs⟩ := firstEnabled_some hf
    obtain ⟨sched, h1, h2⟩ := ih
    exact ⟨a :: sched, List.forall_mem_cons.2 ⟨mem_internalActs.1 ha, h1⟩, by rw [run_cons, hs]; exact h2⟩
  | case3 fuel σ hf => exact ⟨[], by simp, rfl⟩

/-- **(c), the scheduler**: `settle` with fuel `mu σ` reaches `Done` from every such state. -/
theorem C06_ends_together_no_send_can_block (e : Env) (acts : List Act) (henv : GrpcStreamEnv e)
    (he : Ending (run (State.init e) acts)) (hu : NoSendCanBlock (run (State.init e) acts)) :
    Done (settle (mu (run (State.init e) acts)) (run (State.init e) acts)) := by
  obtain ⟨sched, hi, hr⟩ := C06_settle_is_run (mu (run (State.init e) acts)) (run (State.init e) acts)
  have hq := settle_quiescent _ _ (ctl_reach e acts) (Nat.le_refl _)
  rw [hr, ← run_append] at hq ⊢
  exact C06_every_schedule_ends_together_no_send_can_block e acts sched henv he hu
    (fun d hd => nomatch hi _ hd) hq

/-- in particular when no peer is stalled at all. -/
theorem C06_every_schedule_ends_together (e : Env) (acts sched : List Act) (henv : GrpcStreamEnv e)
    (he : Ending (run (State.init e) acts))
    (hu : Unstalled (run (State.init e) acts)) (hns : ∀ d, Act.stall d ∉ sched)
    (hq : Quiescent (run (State.init e) (acts ++ sched))) :
    Done (run (State.init e) (acts ++ sched)) :=
  C06_every_schedule_ends_together_no_send_can_block e acts sched henv he (unstalled_noSendCanBlock hu) hns hq

theorem C06_ends_together (e : Env) (acts : List Act) (henv : GrpcStreamEnv e)
    (he : Ending (run (State.init e) acts)) (hu : Unstalled (run (State.init e) acts)) :
    Done (settle (mu (run (State.init e) acts)) (run (State.init e) acts)) :=
  C06_ends_together_no_send_can_block e acts henv he (unstalled_noSendCanBlock hu)

/-- in particular the initiator going away (its stream's context cancelled; the outgoing context
    derives from it) ends EVERY pass-through stream together, whoever is stalled: both `Send`s fail. -/
theorem C06_cancel_ends_together_even_stalled (e : Env) (acts : List Act) (henv : GrpcStreamEnv e) :
    Done (settle (mu (run (State.init e) (acts ++ [.iniCancel]))) (run (State.init e) (acts ++ [.iniCancel]))) := by
  have hσ : run (State.init e) (acts ++ [.iniCancel]) = { run (State.init e) acts with srvCtx := true } := by
    rw [run_snoc]; rfl
  refine C06_ends_together_no_send_can_block e _ henv ?_ ?_
  · rw [hσ]; simp [Ending, ending]
  · rw [hσ]; constructor <;> intro _ <;> simp [sendOk]

/-- the stream after start-up: both listeners parked in `Recv` -/
def started (e : Env) : State := settle 50 (State.init e)

/-- gRPC that does NOT cancel the server stream when the handler returns: after a source EOF the
    handler returns but the target listener stays blocked in `targetStreamServer.Recv` forever. -/
theorem C06_stuck_without_handler_return_cancel :
    let σ := settle 100 (run (started { returnCancelsSrv := false }) [.push .s .eof])
    Ending σ ∧ firstEnabled σ internalActs = none ∧ σ.h = .returned ∧ σ.i.lis = .inRecv ∧ aliveCount σ = 1 ∧ ¬ Done σ := by
  decide +kernel

/-- a client stream whose `Recv` ignores context cancellation, and a source that ignores the
    half-close: after an initiator EOF the source listener stays blocked in `sourceStreamClient.Recv`. -/
theorem C06_stuck_without_ctx_cancel :
    let σ := settle 100 (run (started { cancelUnblocksRecv := false, answersCloseSend := false }) [.push .i .eof])
    Ending σ ∧ firstEnabled σ internalActs = none ∧ σ.h = .returned ∧ σ.s.lis = .inRecv ∧ aliveCount σ = 1 ∧ ¬ Done σ := by
  decide +kernel

/-- **latent leak**: a `CloseSend` that blocks longer than the 1 s guard.  The guard fires, the handler
    returns and cancels the context, `CloseSend` returns — and its goroutine blocks for ever on the
    unbuffered `closeSent` channel nobody reads any more. -/
theorem C06_closeSend_guard_leak :
    let σ₁ := settle 100 (run (started { closeSendHangs := true }) [.push .i .eof])
    let σ₂ := settle 100 (run σ₁ [.tick])
    σ₁.i.loop = .guard ∧ σ₁.cs = .calling ∧ σ₁.h = .waiting ∧
    Ending σ₂ ∧ firstEnabled σ₂ internalActs = none ∧ step σ₂ .tick = none ∧
    σ₂.h = .returned ∧ σ₂.cs = .signalling ∧ aliveCount σ₂ = 1 ∧ ¬ Done σ₂ := by
  decide +kernel

/-- the handler never looks at `lifetime`: proxy shutdown ends a pass-through stream only because
    `ClusterConnection` closes the client connection; without that nothing happens at all. -/
theorem C06_shutdown_needs_conn_close :
    let σ := settle 100 (run (started { shutdownClosesConn := false }) [.shutdown])
    σ = started { shutdownClosesConn := false } ∧ ¬ Ending σ ∧ σ.h = .waiting ∧ aliveCount σ = 5 := by
  decide +kernel

/-- start-up is the two listeners entering `Recv`, whatever the environment (no switch is read that early) -/
theorem started_eq_run (e : Env) : started e = run (State.init e) [.lCheck .s, .lCheck .i] := rfl

/-- the source sends message 1, the initiator stops reading, the listener hands the message to
    `forwardReplicationMessages` (which calls `targetStreamServer.Send` and blocks), the source ends -/
def sendBlockedS : List Act := [.push .s (.data 1), .stall .s, .lRecv .s, .lHand .s, .push .s .eof]

/-- the initiator sends ack 7, the source stops reading, the listener hands the ack to `forwardAcks`
    (which calls `sourceStreamClient.Send` and blocks), the initiator half-closes (clean EOF) -/
def sendBlockedI : List Act := [.push .i (.data 7), .stall .i, .lRecv .i, .lHand .i, .push .i .eof]

/-- where the stream of `sendBlockedS` / `sendBlockedI` comes to rest -/
def stuckS : State := settle 100 (run (started {}) sendBlockedS)
def stuckI : State := settle 100 (run (started {}) sendBlockedI)

/-- **the stream does not end although the source has ended**: `forwardReplicationMessages` is blocked
    in `Send` to an initiator that does not read.  After the source's EOF the only internal action
    enabled is the source listener's (it enters `Recv`, gets the EOF, and then waits for ever at its
    `select`: the loop is not receiving and the latch is not set); then nothing at all is enabled.
    The latch is false, the handler has not returned, five goroutines are alive, the message is not
    delivered — in a `GrpcStreamEnv` environment. -/
theorem C06_stuck_behind_blocked_send :
    let σ := run (started {}) sendBlockedS
    GrpcStreamEnv σ.env ∧ Ending σ ∧ blockedInSend σ .s = true ∧ step σ (.rProc .s) = none ∧
    (∀ a ∈ internalActs, (step σ a).isSome = true → a = .lCheck .s) ∧
    stuckS = run σ [.lCheck .s, .lRecv .s] ∧ stuckS.s.lis = .has .eof ∧ stuckS.s.loop = .holding (.data 1) ∧
    Ending stuckS ∧ firstEnabled stuckS internalActs = none ∧ stuckS.latch = false ∧ stuckS.h = .waiting ∧
    stuckS.s.out = [] ∧ aliveCount stuckS = 5 ∧ ¬ Done stuckS := by
  decide +kernel

/-- symmetric: the initiator half-closes while `forwardAcks` is blocked in `sourceStreamClient.Send`
    to a source that does not read: no `CloseSend`, no latch, nothing ends. -/
theorem C06_stuck_behind_blocked_send_i :
    let σ := run (started {}) sendBlockedI
    GrpcStreamEnv σ.env ∧ Ending σ ∧ blockedInSend σ .i = true ∧ step σ (.rProc .i) = none ∧
    (∀ a ∈ internalActs, (step σ a).isSome = true → a = .lCheck .i) ∧
    stuckI = run σ [.lCheck .i, .lRecv .i] ∧ stuckI.i.lis = .has .eof ∧ stuckI.i.loop = .holding (.data 7) ∧
    Ending stuckI ∧ firstEnabled stuckI internalActs = none ∧ stuckI.latch = false ∧ stuckI.cs = .idle ∧
    stuckI.h = .waiting ∧ stuckI.i.out = [] ∧ aliveCount stuckI = 5 ∧ ¬ Done stuckI := by
  decide +kernel

theorem stuckS_reachable :
    stuckS = run (State.init {}) ([.lCheck .s, .lCheck .i] ++ sendBlockedS ++ [.lCheck .s, .lRecv .s]) := by
  decide +kernel

theorem stuckI_reachable :
    stuckI = run (State.init {}) ([.lCheck .s, .lCheck .i] ++ sendBlockedI ++ [.lCheck .i, .lRecv .i]) := by
  decide +kernel

/-- **the peer reads again**: from the two stuck states, `unstall` followed by the fair schedule ends
    together (by `C06_ends_together`), and the message that was blocked is delivered. -/
theorem C06_unstall_resumes :
    (let σ := run stuckS [.unstall .s]
     Done (settle (mu σ) σ) ∧ (settle (mu σ) σ).s.out = [1]) ∧
    (let σ := run stuckI [.unstall .i]
     Done (settle (mu σ) σ) ∧ (settle (mu σ) σ).i.out = [7]) := by
  refine ⟨⟨?_, by decide +kernel⟩, ⟨?_, by decide +kernel⟩⟩
  · rw [stuckS_reachable, ← run_append]
    exact C06_ends_together {} _ (by decide +kernel) (by decide +kernel) (by decide +kernel)
  · rw [stuckI_reachable, ← run_append]
    exact C06_ends_together {} _ (by decide +kernel) (by decide +kernel) (by decide +kernel)

/-- **a cancelled context unblocks**: in the `.i` stuck state (`forwardAcks` blocked in
    `sourceStreamClient.Send`), the initiator going away (server stream's context cancelled, the
    outgoing context derives from it) makes the blocked `Send` return an error: `rProc .i` is
    enabled again, and the stream ends together although the source is still not reading (the ack
    is lost with the stream). -/
theorem C06_cancel_unblocks_blocked_send :
    let σ := run stuckI [.iniCancel]
    step stuckI (.rProc .i) = none ∧ (step σ (.rProc .i)).isSome = true ∧ blockedInSend σ .i = false ∧
    Done (settle (mu σ) σ) ∧ (settle (mu σ) σ).i.stalled = true ∧ (settle (mu σ) σ).i.out = [] := by
  decide +kernel

/-- three replication messages and two sync-states relayed, then the source fails: the hypotheses
    hold, the ending is recognised, and `settle` ends everything (message 3, queued before the
    error, is still relayed; sync-state 8 of the other direction is legitimately dropped — prefix,
    not equality); a source that ignores the half-close changes nothing. -/
example :
    let e : Env := { answersCloseSend := false }
    let acts : List Act := [.lCheck .s, .lCheck .i, .push .s (.data 1), .lRecv .s, .lHand .s, .rProc .s,
      .push .i (.data 7), .push .s (.data 2), .lCheck .s, .lRecv .s, .lCheck .i, .lRecv .i, .lHand .i, .lHand .s,
      .rProc .i, .rProc .s, .push .s (.data 3), .push .i (.data 8), .push .s .err]
    let σ := run (State.init e) acts
    GrpcStreamEnv e ∧ Ending σ ∧ ¬ Done σ ∧ σ.s.out = [1, 2] ∧ σ.i.out = [7] ∧
    Done (settle (mu σ) σ) ∧ (settle (mu σ) σ).s.out = [1, 2, 3] ∧ (settle (mu σ) σ).i.out = [7] := by
  decide +kernel

/-- every ending kind, from the parked state, ends together (default environment) -/
example :
    (∀ acts ∈ ([[.push .s .eof], [.push .s .err], [.push .s .unknown], [.push .i .eof], [.push .i .err],
        [.push .i .unknown], [.iniCancel], [.shutdown], [.sendFail .s, .push .s (.data 1)],
        [.sendFail .i, .push .i (.data 1)]] : List (List Act)),
      let σ := run (started {}) acts
      Ending σ ∧ ¬ Done σ ∧ Done (settle (mu σ) σ)) := by
  decide +kernel

/-- a send-failure switch alone is not yet an ending (nothing hits it): the stream keeps relaying -/
example :
    let σ := settle 100 (run (started {}) [.sendFail .s, .push .i (.data 4)])
    ¬ Ending σ ∧ σ.i.out = [4] ∧ aliveCount σ = 5 := by
  decide +kernel

end S2S.Forwarder
