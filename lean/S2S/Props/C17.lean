import S2S.Proofs.Utf8Decomp
import S2S.Proofs.Utf8Std
/-!
# C17 — UTF-8 repair is invisible on valid data and faithful on invalid data

Over `S2S/Model/Utf8.lean`:
 (i)   `validUtf8` / `toValidUtf8` = Go's `utf8.ValidString` / `strings.ToValidUTF8(s, "�")`
       (compared byte for byte with the real functions by the harness, exhaustively up to length 3);
 (ii)  `repairFailureChain` = `repairInvalidUTF8InFailure` (depth bound 10);
 (iii) `codecUnmarshal` = decision logic of `RepairUTF8Codec.Unmarshal` + `convertAndRepairInvalidUTF8`,
       `blobTranslate` = `translateOneDataBlob` + `tryRepairInvalidUTF8InBlob`, as functions of stage outcomes.
All theorems quantify over every byte string / chain / stage outcome.  The protobuf codecs and the
legacy round trip are parameters (modelled, not verified): `C17_codec_faithful_partial` states the
payload-level claim under the explicit hypothesis the harness validates on the real code.
-/
namespace S2S.Utf8

/-- invisible on valid data: valid input is returned byte for byte -/
theorem C17_valid_unchanged (s : Bytes) (h : validUtf8 s = true) : toValidUtf8 s = s :=
  toValidUtf8_of_valid h

/-- the result is always valid UTF-8 -/
theorem C17_output_valid (s : Bytes) : validUtf8 (toValidUtf8 s) = true :=
  validUtf8_toValidUtf8 s

theorem C17_idempotent (s : Bytes) : toValidUtf8 (toValidUtf8 s) = toValidUtf8 s :=
  toValidUtf8_of_valid (validUtf8_toValidUtf8 s)

/-- valid bytes in front of anything are kept verbatim and in order (weaker form of the decomposition) -/
theorem C17_valid_prefix_kept (a b : Bytes) (h : validUtf8 a = true) :
    toValidUtf8 (a ++ b) = a ++ toValidUtf8 b :=
  toValidUtf8_valid_append a b h

/-- the model of Go's table-driven decoder is UTF-8: it accepts exactly the concatenations of
    standard (RFC 3629, shortest-form) encodings of Unicode scalar values — no overlong forms, no
    surrogates, nothing above U+10FFFF, no truncated sequences -/
theorem C17_valid_iff_standard_utf8 (s : Bytes) :
    validUtf8 s = true ↔ ∃ cs : List Nat, (∀ c ∈ cs, isScalar c = true) ∧ s = (cs.map encodeRune).flatten := by
  rw [validUtf8_iff]
  constructor
  · intro h
    induction h with
    | nil => exact ⟨[], by simp⟩
    | cons hr _ ih =>
      obtain ⟨cs, hcs, rfl⟩ := ih
      obtain ⟨c, hc, rfl⟩ := hr.scalar
      exact ⟨c :: cs, by simpa [hc] using hcs, by simp⟩
  · rintro ⟨cs, hcs, rfl⟩
    induction cs with
    | nil => exact .nil
    | cons c cs ih => exact .cons (Rune.of_scalar (hcs c (by simp))) (ih fun x hx => hcs x (by simp [hx]))

/-- hence the repaired string is always a sequence of encoded scalar values -/
theorem C17_output_is_standard_utf8 (s : Bytes) :
    ∃ cs : List Nat, (∀ c ∈ cs, isScalar c = true) ∧ toValidUtf8 s = (cs.map encodeRune).flatten :=
  (C17_valid_iff_standard_utf8 _).mp (validUtf8_toValidUtf8 s)

/-- one maximal run of ill-formed bytes becomes exactly one U+FFFD -/
theorem C17_bad_run_one_replacement (b rest : Bytes) (hne : b ≠ [])
    (hbad : ∀ k, k < b.length → runeLen (b.drop k ++ rest) = 0) (hmax : rest = [] ∨ 0 < runeLen rest) :
    toValidUtf8 (b ++ rest) = repl ++ toValidUtf8 rest :=
  toValidUtf8_bad_run hne hbad hmax

/-- **faithful on invalid data** (strongest form): whenever `segs` cuts `s` into maximal valid
    segments and maximal runs of ill-formed bytes (`Decomp`), the output is the concatenation of the
    valid segments, in order and verbatim, with exactly one U+FFFD per invalid run. -/
theorem C17_decomposition (s : Bytes) (segs : List Seg) (h : Decomp s segs) :
    flatten segs = s ∧ toValidUtf8 s = render segs :=
  ⟨h.flatten_eq, h.toValidUtf8_eq⟩

/-- every byte string has exactly one such decomposition, so `C17_decomposition` determines the output -/
theorem C17_decomposition_exists_unique (s : Bytes) :
    ∃ segs, Decomp s segs ∧ ∀ segs', Decomp s segs' → segs' = segs := by
  obtain ⟨segs, h⟩ := exists_decomp s
  exact ⟨segs, h, fun _ h' => h'.unique h⟩

/-- the segments of a decomposition alternate (maximality): after a valid segment comes an
    ill-formed head or the end, after an invalid run a well-formed rune or the end -/
theorem C17_decomposition_alternates (s : Bytes) (segs : List Seg) (h : Decomp s segs) :
    (∀ g, segs.head? = some (.good g) → 0 < runeLen s) ∧
    (∀ b, segs.head? = some (.bad b) → s ≠ [] ∧ runeLen s = 0) :=
  h.alternate

/-- chains within the supported depth: no error; every message ends valid; messages that were valid
    are untouched; nothing is added, dropped or reordered; `changed` says whether anything was invalid -/
theorem C17_chain_within_bound (chain : List Bytes) (h : chain.length ≤ maxFailureDepth) :
    ∃ changed out, repairFailureChain chain = .ok (changed, out) ∧
      out = chain.map toValidUtf8 ∧
      out.length = chain.length ∧
      (∀ m ∈ out, validUtf8 m = true) ∧
      (∀ i (hi : i < chain.length) (ho : i < out.length), validUtf8 chain[i] = true → out[i] = chain[i]) ∧
      (changed = true ↔ ∃ m ∈ chain, validUtf8 m = false) := by
  refine ⟨_, _, repairFailureChain_ok_of_le chain _ h, rfl, by simp,
    List.forall_mem_map.2 fun x _ => validUtf8_toValidUtf8 x, ?_, ?_⟩
  · intro i hi ho hv
    simp [toValidUtf8_of_valid hv]
  · simp

/-- chains beyond the supported depth are reported as an error -/
theorem C17_chain_beyond_bound (chain : List Bytes) (h : maxFailureDepth < chain.length) :
    repairFailureChain chain = .error .maxDepth :=
  repairFailureChain_error_of_gt chain _ h

/-- what the call leaves behind in every case (Go mutates in place, also when it returns the error):
    the first ten messages sanitised, the rest untouched -/
theorem C17_chain_state (chain : List Bytes) :
    (repairFailureChainFull chain).chain = (chain.take maxFailureDepth).map toValidUtf8 ++ chain.drop maxFailureDepth ∧
    ((repairFailureChainFull chain).err = none ↔ chain.length ≤ maxFailureDepth) := by
  rw [repairFailureChainFull_eq]
  refine ⟨rfl, ?_⟩
  by_cases h : maxFailureDepth < chain.length <;> simp [h] <;> omega

/-- **transparency**: when the standard codec accepts the message the result is the delegate's and
    the repair path is never entered -/
theorem C17_codec_transparent (s : Stages) (h : s.delegate = .ok) :
    codecUnmarshal s = (.okDelegate, false) := by
  simp [codecUnmarshal, h]

/-- the repair path is entered exactly on an invalid-UTF-8 error of the delegate -/
theorem C17_codec_repair_entered_iff (s : Stages) :
    (codecUnmarshal s).2 = true ↔ s.delegate = .invalidUtf8 := by
  fun_cases codecUnmarshal s <;> simp_all

theorem convertAndRepair_repaired (s : Stages) : convertAndRepair s = .repaired ↔
    s.marshaler = true ∧ s.convertible = true ∧ s.legacy = true ∧ s.repair = .changed ∧
      s.remarshal = true ∧ s.reunmarshal = true := by
  fun_cases convertAndRepair s <;> simp_all

/-- **no corruption**: the codec returns success only via delegate-ok or a fully successful repair
    (every stage succeeded and something was repaired) -/
theorem C17_codec_no_corruption (s : Stages) (h : (codecUnmarshal s).1.isOk = true) :
    (s.delegate = .ok ∧ (codecUnmarshal s).1 = .okDelegate) ∨
    (s.delegate = .invalidUtf8 ∧ s.marshaler = true ∧ s.convertible = true ∧ s.legacy = true ∧
      s.repair = .changed ∧ s.remarshal = true ∧ s.reunmarshal = true ∧ (codecUnmarshal s).1 = .okRepaired) := by
  revert h
  fun_cases codecUnmarshal s <;> intro h <;> cases h
  · exact .inl ⟨‹_›, rfl⟩
  · next hd hr => simp [hd, (convertAndRepair_repaired s).1 hr]

/-- otherwise the delegate's own error is what the caller gets (never a silent success) -/
theorem C17_codec_error_is_delegates (s : Stages) (h : (codecUnmarshal s).1.isOk = false) :
    (s.delegate = .otherErr ∧ (codecUnmarshal s).1 = .errOther) ∨
    (s.delegate = .invalidUtf8 ∧ ∃ st, st ≠ .repaired ∧ convertAndRepair s = st ∧ (codecUnmarshal s).1 = .errInvalidUtf8 st) := by
  revert h
  fun_cases codecUnmarshal s <;> intro h <;> cases h
  · exact .inl ⟨‹_›, rfl⟩
  · next hd hne => exact .inr ⟨hd, _, hne, rfl, rfl⟩

/-- The full payload-level claim needs the protobuf wire format: "the legacy re-encoding of the
    repaired message is the input with exactly the failure messages sanitised".  It is kept visible: -/
def C17_codec_faithful_full {W M L : Type} (env : CodecEnv W M L) (sanitise : W → W) : Prop :=
  ∀ w m, codecRun env w = some m → env.std w = some m ∨ env.std (sanitise w) = some m

/-- proved part: whatever the codec returns is the *standard* decode of the input itself or of its
    sanitised copy — nothing else can come out -/
theorem C17_codec_faithful_partial {W M L : Type} (env : CodecEnv W M L) (w : W) (m : M)
    (h : codecRun env w = some m) :
    env.std w = some m ∨ ∃ w', SanitisedCopy env w w' ∧ env.std w = none ∧ env.stdUtf8 w = true ∧ env.std w' = some m := by
  revert h
  fun_cases codecRun env w <;> intro h <;> try contradiction
  · next hm => exact .inl (hm.trans h)
  · next hstd hu _ dec hdec l hl l' hr w' hw' =>
    exact .inr ⟨w', ⟨dec, l, l', hdec, hl, hr, hw'⟩, hstd, by simpa using hu, h⟩

/-- under the round-trip hypothesis (validated by the harness against the real gogo/protobuf codecs on every run)
    the full claim follows -/
theorem C17_codec_faithful_of_roundtrip {W M L : Type} (env : CodecEnv W M L) (sanitise : W → W)
    (hrt : ∀ w w', SanitisedCopy env w w' → w' = sanitise w) : C17_codec_faithful_full env sanitise := by
  intro w m h
  rcases C17_codec_faithful_partial env w m h with h | ⟨w', hs, _, _, hm⟩
  · exact Or.inl h
  · right; rw [← hrt w w' hs]; exact hm

/-- a blob the standard serializer accepts never enters the repair path -/
theorem C17_blob_transparent (s : BlobStages) (d : BlobDefects) (h : s.deserialize = .ok) :
    (blobTranslate s d).2.2.2 = false ∧ (blobTranslate s d).2.2.1 = false := by
  unfold blobTranslate
  cases s.empty <;> simp [h]
  cases s.visitor <;> simp
  split <;> simp

theorem tryRepairBlob_cases (s : BlobStages) (d : BlobDefects) :
    (tryRepairBlob s d).2.2 = true ∨
    (tryRepairBlob s d = (true, true, false) ∧ s.legacy = true ∧ s.repair = .changed ∧ s.reserialize = true ∧
      s.redeserialize = true) ∨
    (tryRepairBlob s d = (false, false, false) ∧ s.legacy = true ∧ s.repair = .unchanged ∧
      d.unrepairablePassedSilently = true) := by
  fun_cases tryRepairBlob s d <;> simp_all

/-- an undecodable blob is reported (error, or repaired) unless the defect lets the one case through in which the
    legacy reading holds nothing to repair -/
theorem blobTranslate_reported (s : BlobStages) (d : BlobDefects) (he : s.empty = false)
    (hd : s.deserialize = .invalidUtf8)
    (hr : d.unrepairablePassedSilently = true → s.legacy = false ∨ s.repair ≠ .unchanged) :
    (blobTranslate s d).1 = .error ∨ (blobTranslate s d).2.2.1 = true := by
  unfold blobTranslate
  simp only [he, hd]
  rcases tryRepairBlob_cases s d with h | ⟨ht, -⟩ | ⟨-, hl, hu, hp⟩
  · simp [h]
  · simp only [ht]; cases s.visitor <;> simp
  · simpa [hl, hu] using hr hp

/-- a blob is reported as repaired (`changed`) only after every stage of the repair succeeded -/
theorem C17_blob_changed_only_by_full_repair (s : BlobStages) (d : BlobDefects) (h : (blobTranslate s d).2.2.1 = true)
    (hne : (blobTranslate s d).1 ≠ .error) :
    s.deserialize = .invalidUtf8 ∧ s.legacy = true ∧ s.repair = .changed ∧ s.reserialize = true ∧
    s.redeserialize = true ∧ s.serialize = true ∧ (blobTranslate s d).1 = .rewritten := by
  generalize hb : blobTranslate s d = r at h hne ⊢
  unfold blobTranslate at hb
  split at hb
  · subst hb; cases h
  simp only at hb
  split at hb
  -- without the repair path `changed` is false
  · subst hb; revert h; cases s.visitor <;> simp; split <;> simp
  · subst hb; cases h
  · rcases tryRepairBlob_cases s d with he | ⟨ht, hl⟩ | ⟨ht, hl⟩
    · simp [he] at hb; subst hb; exact absurd rfl hne
    -- fully repaired: only a failing visitor or a failing re-serialisation can still make it an error
    · simp only [ht] at hb; subst hb; cases hv : s.visitor <;> cases hs : s.serialize <;> simp_all
    · simp only [ht] at hb; subst hb; revert h; cases s.visitor <;> simp; split <;> simp

/-- The statement's last clause for blobs, at full strength: a (non-empty) blob the standard
    serializer rejects as invalid UTF-8 is either repaired or an error is returned — never passed on
    as it is. -/
def C17_blob_unrepairable_reported (d : BlobDefects) : Prop :=
  ∀ s : BlobStages, s.empty = false → s.deserialize = .invalidUtf8 →
    (blobTranslate s d).1 = .error ∨ (blobTranslate s d).2.2.1 = true

/-- FALSE of the current code (finding C17-blob-unrepairable-passed-silently, reproduced on the real
    code by the harness on every run): invalid UTF-8 outside failure messages, legacy reading fine,
    nothing to repair ⇒ the blob is returned unchanged, no error, and the visitor ran on no events. -/
theorem C17_blob_unrepairable_reported_refuted : ¬ C17_blob_unrepairable_reported .asIs := by
  intro h
  have := h ⟨false, .invalidUtf8, true, .unchanged, true, true, some false, true⟩ rfl rfl
  revert this
  decide

/-- proved part for the code as it is: whenever the legacy reading finds something to repair, or
    fails, or a chain is too deep, the clause holds -/
theorem C17_blob_unrepairable_reported_partial (s : BlobStages) (he : s.empty = false)
    (hd : s.deserialize = .invalidUtf8) (hr : s.legacy = false ∨ s.repair ≠ .unchanged) :
    (blobTranslate s .asIs).1 = .error ∨ (blobTranslate s .asIs).2.2.1 = true :=
  blobTranslate_reported s .asIs he hd fun _ => hr

/-- with the deviation repaired (unrepairable ⇒ error, as the codec does) the clause holds in full -/
theorem C17_blob_unrepairable_reported_fixed : C17_blob_unrepairable_reported .fixed :=
  fun s he hd => blobTranslate_reported s .fixed he hd nofun

-- Go's table: overlong forms, surrogates, > U+10FFFF, truncated sequences and stray bytes are invalid
example : validUtf8 [0xC0, 0x80] = false := by decide
example : validUtf8 [0xE0, 0x80, 0x80] = false := by decide
example : validUtf8 [0xED, 0xA0, 0x80] = false := by decide
example : validUtf8 [0xF4, 0x90, 0x80, 0x80] = false := by decide
example : validUtf8 [0xE2, 0x82] = false := by decide
example : validUtf8 [0xFF] = false := by decide
example : validUtf8 [0x61, 0xE2, 0x82, 0xAC, 0xF0, 0x9F, 0x98, 0x80, 0xEF, 0xBF, 0xBD] = true := by decide
-- U+FFFD is the scalar 0xFFFD; its standard encoding is the replacement string
example : isScalar 0xFFFD = true ∧ encodeRune 0xFFFD = repl := by decide
example : encodeRune 0x20AC = [0xE2, 0x82, 0xAC] ∧ encodeRune 0x1F600 = [0xF0, 0x9F, 0x98, 0x80] := by decide
-- consecutive ill-formed bytes collapse into ONE replacement; a truncated rune counts byte by byte
example : toValidUtf8 [0x61, 0xFF, 0xFE, 0x62] = [0x61, 0xEF, 0xBF, 0xBD, 0x62] := by decide
example : toValidUtf8 [0xE2, 0x82, 0x41, 0xC0, 0x80, 0xE2, 0x82, 0xAC] = [0xEF, 0xBF, 0xBD, 0x41, 0xEF, 0xBF, 0xBD, 0xE2, 0x82, 0xAC] := by decide
-- a decomposition with both kinds of segments exists for that input
example : Decomp [0x61, 0xFF, 0xFE, 0x62] [.good [0x61], .bad [0xFF, 0xFE], .good [0x62]] :=
  .good [0x61] _ _ (by decide) (by decide) (by decide)
    (.bad [0xFF, 0xFE] _ _ (by decide) (by intro k hk; match k, hk with | 0, _ => decide | 1, _ => decide) (by decide)
      (.good [0x62] [] _ (by decide) (by decide) (by decide) .nil))
-- chains: depth 10 is repaired, depth 11 is an error but its first ten messages are still repaired
example : repairFailureChain (List.replicate 10 [0xFF]) = .ok (true, List.replicate 10 repl) := by rfl
example : repairFailureChain (List.replicate 11 [0xFF]) = .error .maxDepth := by rfl
example : (repairFailureChainFull (List.replicate 11 [0xFF])).chain = List.replicate 10 repl ++ [[0xFF]] := by decide
example : repairFailureChain [[0x61], [0xFF], [0x62]] = .ok (true, [[0x61], repl, [0x62]]) := by rfl
-- codec: the successful repair and a refused one are both reachable
example : codecUnmarshal ⟨.invalidUtf8, true, true, true, .changed, true, true⟩ = (.okRepaired, true) := by decide
example : codecUnmarshal ⟨.invalidUtf8, true, true, true, .unchanged, true, true⟩ = (.errInvalidUtf8 .nothingRepaired, true) := by decide
example : codecUnmarshal ⟨.invalidUtf8, true, false, true, .changed, true, true⟩ = (.errInvalidUtf8 .notConvertible, true) := by decide

end S2S.Utf8
