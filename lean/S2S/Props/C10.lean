import S2S.Proofs.MuxPoolProgress
import S2S.Proofs.MuxPoolShutdown
/-!
# C10 — the mux session pool stays within its limit, heals itself and shuts down clean

Model: `S2S/Model/MuxPool.lean` — `muxProvider.Start`'s loop branch by branch, `AddConnection`,
`waitAndCleanup`/`unregisterMux`/`AllowMoreConns`, `onClose`, and the environment (connection
attempts failing or succeeding, peers closing, callers closing sessions, cancellation).  The
establisher and the receiver run the same loop; the role is a label.  Every theorem is for every
pool size `n`, both roles, **every list of actions** (every interleaving, every fault sequence);
`d : Defects` selects the current tree (`Defects.asIs`) or the repaired one (`Defects.fixed`) and the
safety and progress theorems hold for both.

* safety — `C10_conservation`, `C10_within_limit`
* slots come back — `C10_failure_returns_slot`, `C10_death_returns_slot`
* progress — `C10_progress_bounded`, `C10_progress_full`, `C10_progress_exists`
* shutdown — the full statement `C10_shutdown_full` is **false of the current tree**
  (`C10_refuted_late_add`, `C10_refuted_sessfn_error`, `C10_refuted_exit_during_ping`, `C10_refuted`);
  proved: `C10_shutdown_partial` (no step of the run abandons an open resource), `C10_shutdown_fixed`
  (the repaired tree), `C10_shutdown_terminates` (after `Cancel` every execution is finite).
-/
namespace S2S.MuxPool

/-- **conservation**: free permits + the provider's in-flight attempt (0/1) + sessions holding a slot
    (registered, or cleaned up with `AllowMoreConns` still to come) + permits taken to the grave by a
    goroutine that returned after `Cancel` = the configured count, in every reachable state. -/
theorem C10_conservation (d : Defects) (n : Nat) (r : Role) (acts : List Act) :
    let σ := run d (St.init n r) acts
    σ.permits + σ.phase.inflight + σ.heldCount + σ.lostPermits = n := by
  have h := (inv_reach d n r acts).cons
  rw [run_cap] at h
  exact h

/-- hence never more than `n` registered sessions, and never more than `n` live yamux sessions at all
    (registered, in flight, or abandoned) -/
theorem C10_within_limit (d : Defects) (n : Nat) (r : Role) (acts : List Act) :
    (run d (St.init n r) acts).registeredCount ≤ n ∧ (run d (St.init n r) acts).openSessions ≤ n := by
  have hi := inv_reach d n r acts
  have h1 := registered_le_cap hi
  have h2 := openSessions_le_cap hi
  rw [run_cap] at h1 h2
  exact ⟨h1, h2⟩

/-- every failure branch of the loop (dial/accept error, `sessionFn` error, ping timeout / EOF / other)
    taken while the lifetime is live returns exactly one permit and goes back to the top of the loop -/
theorem C10_failure_returns_slot (d : Defects) (σ σ' : St) (a : Act) (hl : σ.live = true)
    (ha : a = .connErr ∨ a = .sessErr ∨ ∃ k, a = .pingErr k) (hs : step d σ a = some σ') :
    σ'.permits = σ.permits + 1 ∧ σ'.phase = .idle ∧ σ'.lostPermits = σ.lostPermits := by
  rcases ha with rfl | rfl | ⟨k, rfl⟩ <;> cases Step.of_step hs <;> first | exact ⟨rfl, rfl, rfl⟩ | simp_all

/-- every session death (remote close, local `Close()`, keep-alive failure, cancellation) is followed
    through: clean-up is enabled as soon as the session is dying and closes session and connection;
    the release that follows returns exactly one permit -/
theorem C10_death_returns_slot (d : Defects) (σ : St) (c mid : Nat) (hc : c < σ.conns.length) :
    ((σ.conn c).stage = .registered mid → (σ.conn c).dying σ.live = true → ∃ σ', step d σ (.cleanup c) = some σ' ∧
        (σ'.conn c).stage = .cleaned mid ∧ (σ'.conn c).connOpen = false ∧ (σ'.conn c).sessOpen = false) ∧
    ((σ.conn c).stage = .cleaned mid → ∃ σ', step d σ (.release c) = some σ' ∧ σ'.permits = σ.permits + 1 ∧
        (σ'.conn c).stage = .released mid) := by
  constructor
  · intro hst hd
    exact ⟨_, (Step.cleanup hst hc hd).to_step, by simp [conn_setConn_same hc, Conn.closeBoth]⟩
  · intro hst
    exact ⟨_, (Step.release hst hc).to_step, rfl, by show ((σ.setConn c _).conn c).stage = _; rw [conn_setConn_same hc]⟩

/-- **progress, termination**: from any reachable live state, a continuation in which connection
    attempts, session set-up and pings succeed (`healing`) has at most `healMeasure` steps -/
theorem C10_progress_bounded (d : Defects) (n : Nat) (r : Role) (acts good : List Act)
    (hl : (run d (St.init n r) acts).live = true) (hg : healRun d (run d (St.init n r) acts) good = true) :
    good.length ≤ healMeasure (run d (St.init n r) acts) :=
  (healRun_spec d good (inv_reach d n r acts) hl hg).1

/-- **progress, outcome**: … and when such a continuation cannot be extended, exactly `n` sessions are
    registered, all of them healthy, no permit is free and the provider waits at the top of its loop -/
theorem C10_progress_full (d : Defects) (n : Nat) (r : Role) (acts good : List Act)
    (hl : (run d (St.init n r) acts).live = true) (hg : healRun d (run d (St.init n r) acts) good = true)
    (hmax : ∀ a, healing (run d (run d (St.init n r) acts) good) a = true →
              step d (run d (run d (St.init n r) acts) good) a = none) :
    let σ := run d (run d (St.init n r) acts) good
    σ.registeredCount = n ∧ σ.allHealthy = true ∧ σ.permits = 0 ∧ σ.phase = .idle := by
  obtain ⟨_, hl', hi'⟩ := healRun_spec d good (inv_reach d n r acts) hl hg
  have h := heal_terminal d hi' hl' hmax
  rwa [run_cap, run_cap] at h

/-- **progress, existence**: such a continuation exists from every reachable live state -/
theorem C10_progress_exists (d : Defects) (n : Nat) (r : Role) (acts : List Act)
    (hl : (run d (St.init n r) acts).live = true) :
    ∃ good, healRun d (run d (St.init n r) acts) good = true ∧
      good.length ≤ healMeasure (run d (St.init n r) acts) ∧
      (run d (run d (St.init n r) acts) good).registeredCount = n ∧
      (run d (run d (St.init n r) acts) good).allHealthy = true := by
  obtain ⟨good, hg, hmax⟩ := heal_exists d _ (inv_reach d n r acts) hl
  obtain ⟨h1, h2, _⟩ := C10_progress_full d n r acts good hl hg hmax
  exact ⟨good, hg, C10_progress_bounded d n r acts good hl hg, h1, h2⟩

/-- the full shutdown clause: in every maximal execution after `Cancel`, every session and every
    connection ever handed out is closed, the table is empty, the manager reports closed -/
def C10_shutdown_full (d : Defects) : Prop :=
  ∀ (n : Nat) (r : Role) (acts : List Act),
    (run d (St.init n r) acts).live = false → Maximal d (run d (St.init n r) acts) →
    (run d (St.init n r) acts).allClosed = true ∧ (run d (St.init n r) acts).registered = [] ∧
    (run d (St.init n r) acts).mgrClosed = true

/-- finding `C10-late-add-leaks-session`: `Cancel` lands between `Ping` and `addNewMux`;
    `AddConnection` returns early and nobody closes the session or the connection -/
def witnessLateAdd : List Act := [.acquire, .connOk, .sessOk, .cancel, .pingOk, .add, .acquireFail, .onClose]

/-- finding `C10-sessionfn-error-leaks-conn`: the `sessionFn` error branch never closes the raw connection -/
def witnessSessErr : List Act := [.acquire, .connOk, .sessErr, .cancel, .acquireFail, .onClose]

/-- finding `C10-exit-during-ping-leaks-session`: the lifetime ends while the first ping is pending and the
    ping then fails although the peer is alive: the provider returns before `session.Close(); conn.Close()` -/
def witnessExitDuringPing : List Act := [.acquire, .connOk, .sessOk, .cancel, .pingErr .writeTimeout, .onClose]

theorem C10_refuted_late_add :
    (run Defects.asIs (St.init 1) witnessLateAdd).live = false ∧
    (run Defects.asIs (St.init 1) witnessLateAdd).terminal = true ∧
    (run Defects.asIs (St.init 1) witnessLateAdd).allClosed = false ∧
    (run Defects.asIs (St.init 1) witnessLateAdd).openSessions = 1 := by decide +kernel

theorem C10_refuted_sessfn_error :
    (run Defects.asIs (St.init 1) witnessSessErr).live = false ∧
    (run Defects.asIs (St.init 1) witnessSessErr).terminal = true ∧
    (run Defects.asIs (St.init 1) witnessSessErr).allClosed = false := by decide +kernel

theorem C10_refuted_exit_during_ping :
    (run Defects.asIs (St.init 1) witnessExitDuringPing).live = false ∧
    (run Defects.asIs (St.init 1) witnessExitDuringPing).terminal = true ∧
    (run Defects.asIs (St.init 1) witnessExitDuringPing).allClosed = false := by decide +kernel

/-- the full statement is false of the current tree -/
theorem C10_refuted : ¬ C10_shutdown_full Defects.asIs := fun h => by
  have w := C10_refuted_late_add
  have := (h 1 .establisher witnessLateAdd w.1 (maximal_of_terminal _ w.2.1)).1
  rw [w.2.2.1] at this
  exact Bool.noConfusion this

/-- **partial**: for the current tree, every maximal execution after `Cancel` in which no step abandons
    an open resource — no `addNewMux` of a live session after `Cancel`, no `sessionFn` error, no ping
    failure after `Cancel` that leaves the session running (`noLeakAlong`) — ends with everything closed -/
theorem C10_shutdown_partial (n : Nat) (r : Role) (acts : List Act)
    (hnl : noLeakAlong Defects.asIs (St.init n r) acts = true)
    (hl : (run Defects.asIs (St.init n r) acts).live = false)
    (hmax : Maximal Defects.asIs (run Defects.asIs (St.init n r) acts)) :
    (run Defects.asIs (St.init n r) acts).allClosed = true ∧ (run Defects.asIs (St.init n r) acts).registered = [] ∧
    (run Defects.asIs (St.init n r) acts).mgrClosed = true :=
  shutdown_clean Defects.asIs n r acts hnl hl hmax

/-- with the three repairs (close on late add, close the raw connection on `sessionFn` error, close
    before returning on lifetime end) the full statement holds -/
theorem C10_shutdown_fixed : C10_shutdown_full Defects.fixed := fun n r acts hl hmax =>
  shutdown_clean Defects.fixed n r acts (noLeakAlong_fixed acts _) hl hmax

/-- after `Cancel` every execution is finite (any defects): at most `shutMeasure` enabled steps remain,
    so a maximal execution is always reached -/
theorem C10_shutdown_terminates (d : Defects) (n : Nat) (r : Role) (acts more : List Act)
    (hl : (run d (St.init n r) acts).live = false) :
    effectiveSteps d (run d (St.init n r) acts) more ≤ shutMeasure (run d (St.init n r) acts) :=
  shutdown_bounded d more (inv_reach d n r acts) hl

/-- a pool of 2: one session registered, one attempt fails on a silent peer, the registered session's
    peer disappears, cancellation arrives while the provider is dialling -/
def nvShutdown : List Act := [.acquire, .connOk, .sessOk, .pingOk, .add, .acquire, .connOk, .sessOk, .pingErr .writeTimeout,
  .peerClose 0, .cleanup 0, .release 0, .acquire, .cancel, .connErr, .onClose]

/-- … the hypotheses of the partial theorem hold, the execution is maximal, everything is closed -/
example :
    noLeakAlong Defects.asIs (St.init 2) nvShutdown = true ∧ (run Defects.asIs (St.init 2) nvShutdown).live = false ∧
    (run Defects.asIs (St.init 2) nvShutdown).terminal = true ∧ (run Defects.asIs (St.init 2) nvShutdown).allClosed = true ∧
    (run Defects.asIs (St.init 2) nvShutdown).conns.length = 2 := by decide +kernel

/-- the late-add witness on the repaired tree ends clean -/
example : (run Defects.fixed (St.init 1) witnessLateAdd).terminal = true ∧
    (run Defects.fixed (St.init 1) witnessLateAdd).allClosed = true := by decide +kernel

/-- a pool of 3 with a dead registered session, a doomed attempt in flight and a free slot -/
def nvHeal : List Act := [.acquire, .connOk, .sessOk, .pingOk, .add, .peerClose 0, .acquire, .connOk, .sessOk, .peerClose 1]

/-- … is live, has one (dead) session registered, and the driver's `heal` refills it to 3 healthy sessions -/
example :
    (run Defects.asIs (St.init 3) nvHeal).live = true ∧ (run Defects.asIs (St.init 3) nvHeal).registeredCount = 1 ∧
    (heal Defects.asIs 6 (run Defects.asIs (St.init 3) nvHeal)).registeredCount = 3 ∧
    (heal Defects.asIs 6 (run Defects.asIs (St.init 3) nvHeal)).allHealthy = true := by decide +kernel

end S2S.MuxPool
