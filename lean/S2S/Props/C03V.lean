import S2S.Proofs.RoutingC03Safe
/-!
# C03, as seen by the source cluster

`C03_acks_monotone_bounded` speaks about the moment an acknowledgement is SENT. What the source cluster has received at
any time is a PREFIX of what has been sent (a `Send` can block on a slow reader; delivery takes time). This file states
C03's safety half for every such prefix, judged against the LATER state, derived from `run_hist` on the C03 proof
chain. (The companion statements on the C01 proof chain — a late acknowledgement still covers only confirmed tasks — are
in `Props/C03S.lean`, checked with C01: the two chains define homonymous invariants and cannot be imported together.)
-/
namespace S2S.Routing

theorem C03V_visible_prefix_monotone_bounded (ns nt : Nat) (acts : List Act)
    (henv : EnvOK Cfg.cur (State.init ns nt) acts) (hnf : NoFaults acts) (s : SId) (k : Nat) :
    ((((run Cfg.cur (State.init ns nt) acts).src s).acksSent.take k).Pairwise (· ≤ ·)) ∧
    ∀ v ∈ ((run Cfg.cur (State.init ns nt) acts).src s).acksSent.take k,
      v ≤ ((run Cfg.cur (State.init ns nt) acts).src s).lastHigh := by
  have H := run_hist (Inv.init ns nt) (fun s => by rw [src_init]; exact .nil) henv hnf s
  exact ⟨H.sorted.sublist (List.take_sublist _ _), fun v hv => H.le_lastHigh v (List.mem_of_mem_take hv)⟩

end S2S.Routing
