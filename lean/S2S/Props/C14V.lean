import S2S.Proofs.TranslateValSA
import S2S.Props.TranslateValEx
/-!
# C14 at the level of VALUES — search-attribute keys renamed, values untouched, nothing else changes

* `C14_keys_renamed_values_untouched`: when no rebuilt map receives two entries under one key (`saCollision = false`, the
  explicit hypothesis under which Go's rebuilt map IS the model's entry list), the translated object is — up to the
  re-encoded marks — `saSpecV (translateName m)`: the object in which the entries of every search-attribute container the
  visitor reaches (typed `*SearchAttributes` in a search-attribute field, bare `map[string]*Payload`, also inside
  recognised history blobs) have their key `k` replaced by `translateName m k` (unmapped keys: `translateName m k = k`,
  `C13_unmapped_untouched`), every entry keeps its value, and nothing else in the tree differs.
* `C14_container_keys` / `C14_container_values`: what `saSpecV` does to one container, spelled out; a payload stays
  (`C14_payload_untouched`).
* `C14_unmatched_is_unchanged`: no key matched ⇒ the object itself is returned.
* collisions, separately: `C14_collision_means_two_entries_one_key` (the flag is raised exactly when two entries of one
  container get the same new key — Go then keeps only one of them, which one depends on map iteration order),
  `C14_no_collision_for_bimap` (a one-to-one mapping and distinct keys avoiding the unmapped targets never collide).
-/
set_option linter.unusedSectionVars false
namespace S2S.TranslateVal
open S2S.Translate S2S.NameMap

variable {α : Type} [DecidableEq α]

theorem C14_keys_renamed_values_untouched (g : Graph) (tb : Tables) (X : Ext α) (m : List (α × α)) (v : Val α)
    (_hcol : saCollision g tb X m v = false) :
    unflag (translateSA g tb X m v).1 = unflag (saSpecV g tb X (translateName m) none v) := by
  unfold translateSA
  rw [visitSa_eq_step, saSpecV_eq_step]
  exact (sa_is_renaming (fun k => by rw [app_look, look_fst])).1 _ v

/-- the values of the entries of a map -/
def valsOf : List (Val α) → List (Val α)
  | [] => []
  | .kv _ v :: es => v :: valsOf es
  | _ :: es => valsOf es

/-- one rebuilt container: the new keys are the old keys through the renaming, in the same order -/
theorem C14_container_keys (g : Graph) (tb : Tables) (X : Ext α) (ρ : α → α) (es : List (Val α)) :
    keysOf (saSpecItems g tb X ρ .ren es) = (keysOf es).map ρ := by
  induction es with
  | nil => rfl
  | cons e es ih => cases e <;> first | exact ih | exact congrArg (_ :: ·) ih

/-- … and the values are the old values (a payload is returned as it is: `saSpecV` does not touch payloads) -/
theorem C14_container_values (g : Graph) (tb : Tables) (X : Ext α) (ρ : α → α) (es : List (Val α)) :
    valsOf (saSpecItems g tb X ρ .ren es) = (valsOf es).map (saSpecV g tb X ρ none) := by
  induction es with
  | nil => rfl
  | cons e es ih => cases e <;> first | exact ih | exact congrArg (_ :: ·) ih

theorem C14_payload_untouched (g : Graph) (tb : Tables) (X : Ext α) (ρ : α → α) (fc : Option FieldD) (t : α) :
    saSpecV g tb X ρ fc (.payload t) = .payload t := rfl

theorem C14_unmatched_is_unchanged (g : Graph) (tb : Tables) (X : Ext α) (m : List (α × α)) (v : Val α)
    (h : (translateSA g tb X m v).2 = false) : (translateSA g tb X m v).1 = v := by
  unfold translateSA at h ⊢
  rw [visitSa_eq_step] at h ⊢
  exact sa_unmatched_unchanged.1 _ v h

theorem C14_collision_means_two_entries_one_key (m : List (α × α)) (es : List (Val α))
    (h : renCollide (look m) es = true) :
    ∃ k1 k2, [k1, k2].Sublist (keysOf es) ∧ translateName m k1 = translateName m k2 := by
  obtain ⟨k1, k2, hs, he⟩ := collide_witness (look m) es h
  rw [app_look, app_look, look_fst, look_fst] at he
  exact ⟨k1, k2, hs, he⟩

theorem C14_no_collision_for_bimap (m : List (α × α)) (hbi : newBiMap m = some m) (es : List (Val α))
    (hd : (keysOf es).Nodup) (hk : ∀ k ∈ keysOf es, (∃ p ∈ m, p.1 = k) ∨ (∀ p ∈ m, p.2 ≠ k)) :
    renCollide (look m) es = false := by
  obtain ⟨hkn, hvn⟩ := bimap_nodup m hbi
  have e : (fun k => (app (look m) k).1) = translateName m := funext fun k => by rw [app_look, look_fst]
  simp only [renCollide, e, Bool.not_eq_eq_eq_not, Bool.not_false, decide_eq_true_eq]
  exact nodup_map_translateName m hkn hvn _ hd hk

/-! non-vacuity (fixture of `Props/TranslateValEx.lean`): keys renamed inside a blob, value tokens untouched; a collision is flagged -/
example : saCollision Ex.g Ex.tb Ex.X Ex.chain Ex.saMsg = false := by rfl
example : unflag (translateSA Ex.g Ex.tb Ex.X Ex.chain Ex.saMsg).1 = unflag (saSpecV Ex.g Ex.tb Ex.X (translateName Ex.chain) none Ex.saMsg) := by rfl
/-- two sources, one target: flagged -/
example : saCollision Ex.g Ex.tb Ex.X [(10, 12), (11, 12)] Ex.saMsg = true := by rfl
/-- a target equal to an unmapped key that is present: flagged -/
example : saCollision Ex.g Ex.tb Ex.X [(10, 13)] Ex.saMsg = true := by rfl

end S2S.TranslateVal
