import S2S.Proofs.RoutingC02Step
/-!
# C02 — routing delivers each task once, to the owning shard, in a well-formed stream

Same machine and hypotheses as C01 (fault-free, `EnvOK`).  For every reachable state `σ`, every
source `s` and every target `t`:

* `C02_delivery_prefix`: what target stream `t` has received of source `s` (original ids, in
  stream order) is a prefix of the tasks of `s` owned by `t`, in the order the source sent them —
  so nothing is duplicated, reordered, or delivered to a shard that does not own it;
* `C02_delivery_complete`: once nothing of `s` for `t` is in flight (`Drained`) the two lists
  are equal — every task is delivered exactly once (`C02_sent_ids_distinct`: ids on a source stream are distinct);
* `C02_stream_wellformed`: on every target stream proxy task ids strictly increase across the
  whole stream, every task-bearing message has an exclusive high watermark above its last id and
  above every earlier watermark — exactly what Temporal's `TrackTasks` needs to accept every task;
* `C02_payload_positions`: the proxy rewrites ids position by position (`ids` and the carried
  original tasks have the same length); payload bytes are compared on the real code by the harness.

Owner = `farmhash(namespace id ++ "_" ++ workflow id) % n + 1` is an input of the model (`recv`
carries each task's owner); the harness checks the real code routes by the real hash.
-/
namespace S2S.Routing

theorem C02_delivery_prefix (ns nt : Nat) (acts : List Act)
    (henv : EnvOK Cfg.cur (State.init ns nt) acts) (hnf : NoFaults acts) (s : SId) (t : TId) :
    ((run Cfg.cur (State.init ns nt) acts).tgt t).deliveredOf s <+:
      ((run Cfg.cur (State.init ns nt) acts).src s).sentTo t :=
  ⟨_, (pipe_split (inv_reach ns nt acts henv hnf) s t).symm⟩

theorem C02_delivery_complete (ns nt : Nat) (acts : List Act)
    (henv : EnvOK Cfg.cur (State.init ns nt) acts) (hnf : NoFaults acts) (s : SId) (t : TId)
    (hd : Drained (run Cfg.cur (State.init ns nt) acts) s t) :
    ((run Cfg.cur (State.init ns nt) acts).tgt t).deliveredOf s =
      ((run Cfg.cur (State.init ns nt) acts).src s).sentTo t :=
  (inv_reach ns nt acts henv hnf).delivery_complete hd

theorem C02_sent_ids_distinct (ns nt : Nat) (acts : List Act)
    (henv : EnvOK Cfg.cur (State.init ns nt) acts) (hnf : NoFaults acts) (s : SId) (t : TId) :
    StrictInc (((run Cfg.cur (State.init ns nt) acts).src s).sentTo t) :=
  StrictInc.of_pairwise (ownedIds_pairwise (StrictInc.of_pairwise ((inv_reach ns nt acts henv hnf).src s).pw) t)

theorem C02_stream_wellformed (ns nt : Nat) (acts : List Act)
    (henv : EnvOK Cfg.cur (State.init ns nt) acts) (hnf : NoFaults acts) (t : TId) :
    StreamWF 0 0 ((run Cfg.cur (State.init ns nt) acts).tgt t).stream :=
  ((streamWF_append _ _ _ _).1 ((inv_reach ns nt acts henv hnf).tgt t).wf).1

theorem C02_payload_positions (ns nt : Nat) (acts : List Act)
    (henv : EnvOK Cfg.cur (State.init ns nt) acts) (hnf : NoFaults acts) (t : TId) :
    ∀ e ∈ ((run Cfg.cur (State.init ns nt) acts).tgt t).stream, e.ids.length = e.orig.length :=
  fun e he => ((inv_reach ns nt acts henv hnf).tgt t).lens e (List.mem_append_left _ he)

/-- non-vacuity: two sources feed one target that connected after tasks for it had arrived. -/
example :
    let acts : List Act := [.openSrc 0, .openSrc 1, .recv 0 [(5, 0), (6, 0)] 7, .recv 1 [(3, 0)] 4,
      .openTgt 0, .startTgt 0, .replayStep 0 0, .replayStep 0 1, .replayDone 0, .deliver 1 0, .deliver 0 0, .take 0, .emit 0, .take 0, .emit 0]
    let σ := run Cfg.cur (State.init 2 1) acts
    EnvOK Cfg.cur (State.init 2 1) acts ∧ NoFaults acts ∧
    (σ.tgt 0).deliveredOf 0 = [5, 6] ∧ (σ.tgt 0).deliveredOf 1 = [3] ∧ Drained σ 0 0 := by
  decide +kernel

end S2S.Routing
