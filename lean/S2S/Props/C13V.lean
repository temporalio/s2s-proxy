import S2S.Proofs.TranslateValRound
import S2S.Proofs.TranslateValErase
import S2S.Proofs.TranslateValSA
import S2S.Gen.TGBase
import S2S.Props.TranslateValEx
/-!
# C13 at the level of VALUES — translation changes only namespace names, is the identity when nothing maps, round-trips

`S2S/Model/TranslateVal.lean` models `visitNamespace` / `visitSearchAttributes` on whole message trees (`Val`), driven by the
same regenerated `Graph` / `Tables` as the path model; the engines of C12 / C13 / C14 run the real translators on dumped
messages and diff the dumped result with this model (ops `valns` / `valsa`).  All theorems: every graph, every table,
every mapping, every tree (well typed or not).

* `C13_only_names_change`: blanking every namespace-name leaf (plain-string field whose Go name is in `namespaceFieldNames`,
  and `NamespaceInfo.Name`) and forgetting the re-encoded marks makes the object and its translation equal — shape, every
  other scalar, map keys, list lengths, blob structure are identical.  (`C13_only_namespace_fields_assigned` of C13 says
  that on the current tree those leaves are namespace names by the descriptor oracle.)
* `C13_nothing_to_map_is_identity`: if no name offered to the matcher is a key of the mapping, the result is the object
  itself, `matched = false`, and no blob is re-encoded (the result is the input tree, marks included).
* `C13_unmatched_is_unchanged`: more generally `matched = false` implies the object is returned untouched.
* `C13_round_trip`: for a one-to-one mapping not involving the empty name, an object whose visited names avoid the
  unmapped targets is restored by translating back with the inverse — equal up to the re-encoded marks (`unflag`), i.e.
  equal as Go values.  `C13_sa_round_trip`: the same for search-attribute keys.
  The hypothesis on the empty name is needed: see `C13_round_trip_needs_nonempty`.  Every mapping the proxy accepts at
  start-up satisfies both hypotheses on the mapping: `C13_round_trip_of_accepted_config`.
-/
namespace S2S.TranslateVal
open S2S.Translate S2S.NameMap

variable {α : Type} [DecidableEq α]

theorem C13_only_names_change (g : Graph) (tb : Tables) (X : Ext α) (m : List (α × α)) (blank : α) (v : Val α) :
    eraseV g tb (fun _ => blank) none (translateNs g tb X m v).1 = eraseV g tb (fun _ => blank) none v := by
  rw [translateNs_eq_step]
  exact (erase_visit (fun _ => rfl)).1 .root v false nofun

theorem C13_unmatched_is_unchanged (g : Graph) (tb : Tables) (X : Ext α) (m : List (α × α)) (v : Val α)
    (h : (translateNs g tb X m v).2 = false) : (translateNs g tb X m v).1 = v := by
  rw [translateNs_eq_step] at h ⊢
  exact unmatched_unchanged.1 _ v h

theorem C13_nothing_to_map_is_identity (g : Graph) (tb : Tables) (X : Ext α) (m : List (α × α)) (v : Val α)
    (h : ∀ s ∈ visitedNames g tb X v, ∀ p ∈ m, p.1 ≠ s) : translateNs g tb X m v = (v, false) := by
  rw [visitedNames_eq_step] at h
  rw [translateNs_eq_step]
  exact nsStep_identity _ v fun s hs => by rw [app_look]; exact look_snd_false m s (h s hs)

theorem C13_round_trip (g : Graph) (tb : Tables) (X : Ext α) (m : List (α × α)) (hbi : newBiMap m = some m)
    (hne : ∀ p ∈ m, p.1 ≠ X.empty ∧ p.2 ≠ X.empty) (hN : tb.ns.contains g.nameField = false) (v : Val α)
    (hv : ∀ s ∈ visitedNames g tb X v, (∃ p ∈ m, p.1 = s) ∨ (∀ p ∈ m, p.2 ≠ s)) :
    unflag (translateNs g tb X (inverse m) (translateNs g tb X m v).1).1 = unflag v :=
  translateNs_roundtrip m hbi (mapNoNewEmpty_of_nonempty m X.empty hne) hN v hv

theorem C13_sa_round_trip (g : Graph) (tb : Tables) (X : Ext α) (m : List (α × α)) (hbi : newBiMap m = some m) (v : Val α)
    (hv : ∀ k ∈ saKeysV g tb X none v, (∃ p ∈ m, p.1 = k) ∨ (∀ p ∈ m, p.2 ≠ k)) :
    unflag (translateSA g tb X (inverse m) (translateSA g tb X m v).1).1 = unflag v := by
  obtain ⟨hk, hvn⟩ := bimap_nodup m hbi
  unfold translateSA
  rw [saKeysV_eq_step] at hv
  rw [visitSa_eq_step, visitSa_eq_step]
  apply sa_roundtrip.1 _ v
  intro s hs
  rw [app_look, app_look, look_fst, look_fst]
  exact translateName_inverse m hk hvn s (hv s hs)

/-- **C13, for every configuration the proxy accepts at start-up**: `configAccepts` (no empty name, one-to-one) is
    exactly what `C13_round_trip` needs of the mapping, so for every ACCEPTED mapping and every message whose visited
    names avoid the unmapped targets the round trip restores the message. (Before the `fix:` commit that rejects empty
    names the first conjunct was missing and `Ex.C13_round_trip_needs_nonempty` was reachable.) -/
theorem C13_round_trip_of_accepted_config (g : Graph) (tb : Tables) (X : Ext α) (m : List (α × α))
    (hacc : S2S.NameMap.configAccepts X.empty m = true) (hN : tb.ns.contains g.nameField = false) (v : Val α)
    (hv : ∀ s ∈ visitedNames g tb X v, (∃ p ∈ m, p.1 = s) ∨ (∀ p ∈ m, p.2 ≠ s)) :
    unflag (translateNs g tb X (inverse m) (translateNs g tb X m v).1).1 = unflag v :=
  C13_round_trip g tb X m (bimap_of_configAccepts hacc) (nonempty_of_configAccepts hacc) hN v hv

/-- the tables of the current tree satisfy the side condition of `C13_round_trip`: `Name` is not a namespace field name -/
example : S2S.Gen.TG.tables.ns.contains S2S.Gen.TG.graph.nameField = false := by decide

/-! ### non-vacuity on the fixture of `Props/TranslateValEx.lean`: a message with a blob holding two events, a chain mapping a→b→c -/
namespace Ex
/-- the chain maps every field once (a→b, b→c, simultaneously); the identity field and the skippable batch are untouched;
    only the batch that matched is re-encoded -/
example : translateNs g tb X chain msg1 =
    (.msg 0 [.str 11, .list [.blobEv true [started 11 (.nil .ptr), started 12 (.nil .ptr)], .blobEv false [signaled 10, signaled 11]], .str 10], true) := by
  rfl
/-- blanking the namespace leaves identifies the two -/
example : eraseV g tb (fun _ => 0) none (translateNs g tb X chain msg1).1 = eraseV g tb (fun _ => 0) none msg1 := by rfl
/-- the names offered to the matcher (the skippable batch offers none) -/
example : visitedNames g tb X msg1 = [10, 10, 11] := by rfl
/-- nothing to map: identity -/
example : translateNs g tb X [(13, 14)] msg1 = (msg1, false) := by rfl
/-- a swap round-trips -/
example : unflag (translateNs g tb X (inverse [(10, 11), (11, 10)]) (translateNs g tb X [(10, 11), (11, 10)] msg1).1).1 = unflag msg1 := by rfl
/-- the chain round-trips `msg1` only because `c` does not occur in it; a message holding the unmapped target `c` (12) is
    NOT restored — the hypothesis of `C13_round_trip` excludes exactly this -/
example : unflag (translateNs g tb X (inverse chain) (translateNs g tb X chain (.msg 0 [.str 12, .nil .slice, .str 0])).1).1
    ≠ unflag (.msg 0 [.str 12, .nil .slice, .str 0]) := by
  intro h; cases h

/-- `C13_round_trip` needs the mapping to avoid the empty name: a skippable event whose link names namespace `a`, mapping
    `a ↦ ""`: translated (the non-empty link name stops the shortcut), but on the way back the link name is empty, the
    shortcut skips the event and the name is not restored -/
example : (translateNs g tb X [(10, 0)] (.msg 0 [.str 13, .list [.blobEv false [linked 10]], .str 0])).1
    = .msg 0 [.str 13, .list [.blobEv true [linked 0]], .str 0] := by rfl
theorem C13_round_trip_needs_nonempty :
    unflag (translateNs g tb X (inverse [(10, 0)]) (translateNs g tb X [(10, 0)] (.msg 0 [.str 13, .list [.blobEv false [linked 10]], .str 0])).1).1
    ≠ unflag (.msg 0 [.str 13, .list [.blobEv false [linked 10]], .str 0]) := by
  intro h; cases h

/-- search-attribute keys: chain + swap round-trips on keys avoiding the unmapped target -/
example : translateSA g tb X chain saMsg =
    (.msg 0 [.str 10, .list [.blobEv true [started 10 (.msg 6 [.map [.kv 11 (.payload 1), .kv 12 (.payload 2), .kv 13 (.payload 3)]])]], .str 10], true) := by rfl
example : unflag (translateSA g tb X (inverse chain) (translateSA g tb X chain saMsg).1).1 = unflag saMsg := by rfl
end Ex

end S2S.TranslateVal
