import S2S.Proofs.RoutingFaultFree
/-!
# C01 — routing mode never acknowledges a task the target has not confirmed

Model: `S2S/Model/Routing.lean` (fine-grained: one `Act` = one atomic step of one goroutine or of
a cluster).  The theorem quantifies over **every** number of source and target shards, **every**
list of actions — hence every batch shape, every interleaving of deliveries, sends and
acknowledgements across the independent target streams, targets that acknowledge late, out of
order with respect to each other, or never — under `EnvOK` (what Temporal's stream sender
guarantees on a source stream) and `NoFaults` (stream failures are C04).

`AcksSafeAlong` says: at every step, every acknowledgement `a` the proxy sends on a source
stream covers only tasks of that source (received so far, id `< a`) that the target stream
they were forwarded on has already acknowledged.
-/
namespace S2S.Routing

/-- **C01** for the current tree. -/
theorem C01_never_acks_unconfirmed (ns nt : Nat) (acts : List Act)
    (henv : EnvOK Cfg.cur (State.init ns nt) acts) (hnf : NoFaults acts) :
    AcksSafeAlong Cfg.cur (State.init ns nt) acts :=
  acks_safe_of_faultFree cur_seedAcks _ (faultFree_init ns nt) acts henv hnf

/-- the witness of the finding repaired by the `fix:` commit 86baac2: task 5 → target 1 (silent),
    task 6 → target 0, target 0 acknowledges ⇒ the pre-fix receiver sent 6 upstream. -/
def witnessPreFix : List Act :=
  [.openTgt 0, .startTgt 0, .replayDone 0, .openTgt 1, .startTgt 1, .replayDone 1, .openSrc 0,
   .recv 0 [(5, 1)] 6, .deliver 0 1, .take 1, .emit 1,
   .recv 0 [(6, 0)] 7, .deliver 0 0, .take 0, .emit 0,
   .tack 0 2, .ackFwd 0 0, .ackFin 0, .rack 0]

/-- The pre-fix receiver (no seeding of `ackByTarget`) violated the property. (Fixed finding.) -/
theorem C01_refuted_before_fix :
    EnvOK Cfg.preFix (State.init 1 2) witnessPreFix ∧ NoFaults witnessPreFix ∧
    ¬ AcksSafeAlong Cfg.preFix (State.init 1 2) witnessPreFix := by decide +kernel

/-- non-vacuity: the same run is admitted by the hypotheses on the current tree, and an
    acknowledgement (5: nothing below the silent target's first task) really is sent. -/
example : EnvOK Cfg.cur (State.init 1 2) witnessPreFix ∧ NoFaults witnessPreFix ∧
    ((run Cfg.cur (State.init 1 2) witnessPreFix).src 0).acksSent = [5] := by decide +kernel

end S2S.Routing
