import S2S.Proofs.TranslateValErr
import S2S.Props.TranslateValEx
import S2S.Props.C16
/-!
# C16 at the level of VALUES — translation followed by the namespace access check

The inbound server runs the translation interceptor (remote names → local names, unless the
`s2s-request-translation: false` header switches it off) and then the access-control interceptor, whose matcher is the
SAME reflective visitor (`visitNamespace`) with a predicate instead of a mapping.  Here the two are composed on the
value-level model of the visitor (`S2S/Model/TranslateVal.lean`, validated against the real code by the `valns` ops):

* `aclOnValue`      the access-control interceptor's decision on a request VALUE: the names it checks are
                    `visitedNames` of that value; when the visitor fails (`nsErr`: a non-empty blob in a recognised blob
                    field that does not decode) the request is refused;
* `inboundOnValue`  translation (or not: the bypass header) and then `aclOnValue` on what translation produced.

Theorems — every graph, tables, `Ext`, mapping, policy, method, value tree (well typed or not):

* `C16V_forbidden_name_refused`   a forbidden name among the names the visitor finds in the tree the access check sees
                                  ⇒ `.denied`, for BOTH values of the bypass header (it changes WHICH names are checked —
                                  the untranslated ones — never WHETHER they are checked);
* `C16V_names_checked_are_translated_names`  the names checked after translation are, as a LIST (same order, same length),
                                  `translateName m` of the names found in the original request — provided the mapping
                                  never translates a non-empty name to the empty name (the skip shortcut looks at the
                                  emptiness of link namespaces; translating the empty name to a non-empty one is
                                  harmless: `Ex16.empty_key_is_fine`) and `Name` is not a namespace field name
                                  (`NamespaceInfo.Name` would go through the matcher twice).  Both hypotheses are needed:
                                  `Ex16.names_need_nonempty`, `Ex16.names_need_nameOnce`.
                                  The first one entry by entry: `C16V_names_checked_nonempty_mapping`; every
                                  configuration accepted at start-up satisfies it
                                  (`C16V_names_checked_of_accepted_config`), the current tree's tables the second.
* `C16V_visitor_failure_unchanged_by_translation`  translation neither creates nor hides a visitor failure;
* `C16V_decision_on_original_request`  hence the whole pipeline as a function of the ORIGINAL request;
  `C16V_forbidden_translated_name_refused`: a name of the original request whose translation is forbidden ⇒ `.denied`;
* `C16V_all_allowed_forwarded`, `C16V_unreadable_refused`.
-/
namespace S2S.TranslateVal
open S2S.Translate S2S.NameMap S2S.Acl

/-- the access-control interceptor on a request value -/
def aclOnValue (p : Policy) (svc : Service) (method : String) (g : Graph) (tb : Tables) (X : Ext String)
    (v : Val String) : Decision :=
  aclUnaryOnV p svc method (if nsErr g tb X v then none else some (visitedNames g tb X v))

/-- what the access check sees: the translated request, or (bypass header, `translate = false`) the request itself -/
def seenByAcl (translate : Bool) (m : List (String × String)) (g : Graph) (tb : Tables) (X : Ext String)
    (v : Val String) : Val String :=
  if translate then (translateNs g tb X m v).1 else v

/-- the inbound pipeline: translation interceptor, then access-control interceptor -/
def inboundOnValue (translate : Bool) (m : List (String × String)) (p : Policy) (svc : Service) (method : String)
    (g : Graph) (tb : Tables) (X : Ext String) (v : Val String) : Decision :=
  let v' := if translate then (translateNs g tb X m v).1 else v
  aclOnValue p svc method g tb X v'

theorem inboundOnValue_eq (translate : Bool) (m : List (String × String)) (p : Policy) (svc : Service) (method : String)
    (g : Graph) (tb : Tables) (X : Ext String) (v : Val String) :
    inboundOnValue translate m p svc method g tb X v = aclOnValue p svc method g tb X (seenByAcl translate m g tb X v) := rfl

/-! the access decision on ANY tree; translation and the bypass header only choose the tree (`inboundOnValue_eq`) -/

theorem aclOnValue_denied_of_forbidden (p : Policy) (svc : Service) (method : String) (g : Graph) (tb : Tables)
    (X : Ext String) (v : Val String) (hsvc : svc = .workflow ∨ svc = .admin) (n : String)
    (hn : n ∈ visitedNames g tb X v) (hf : isAllowed p.namespaces n = false) :
    aclOnValue p svc method g tb X v = .denied := by
  unfold aclOnValue
  cases nsErr g tb X v with
  | true => exact C16_unreadable_request_denied p svc method hsvc
  | false => exact C16_forbidden_namespace_denied p svc method _ n hsvc hn hf

theorem aclOnValue_forward (p : Policy) (svc : Service) (method : String) (g : Graph) (tb : Tables)
    (X : Ext String) (v : Val String) (herr : nsErr g tb X v = false)
    (hdeny : svc = .workflow → denyList.contains method = false)
    (hadm : svc = .admin → isAllowed p.adminMethods method = true)
    (hall : ∀ n ∈ visitedNames g tb X v, isAllowed p.namespaces n = true) :
    aclOnValue p svc method g tb X v = .forward := by
  unfold aclOnValue
  rw [herr]
  exact all_allowed_forward p svc method _ hdeny hadm hall

theorem aclOnValue_denied_of_err (p : Policy) (svc : Service) (method : String) (g : Graph) (tb : Tables)
    (X : Ext String) (v : Val String) (hsvc : svc = .workflow ∨ svc = .admin) (herr : nsErr g tb X v = true) :
    aclOnValue p svc method g tb X v = .denied := by
  unfold aclOnValue
  rw [herr]
  exact C16_unreadable_request_denied p svc method hsvc

theorem C16V_forbidden_name_refused (translate : Bool) (m : List (String × String)) (p : Policy) (svc : Service)
    (method : String) (g : Graph) (tb : Tables) (X : Ext String) (v : Val String)
    (hsvc : svc = .workflow ∨ svc = .admin) (n : String)
    (hn : n ∈ visitedNames g tb X (if translate then (translateNs g tb X m v).1 else v))
    (hf : isAllowed p.namespaces n = false) :
    inboundOnValue translate m p svc method g tb X v = .denied :=
  aclOnValue_denied_of_forbidden p svc method g tb X _ hsvc n hn hf

theorem C16V_names_checked_are_translated_names (g : Graph) (tb : Tables) (X : Ext String) (m : List (String × String))
    (hE : ∀ s, translateName m s = X.empty → s = X.empty) (hN : tb.ns.contains g.nameField = false) (v : Val String) :
    visitedNames g tb X (translateNs g tb X m v).1 = (visitedNames g tb X v).map (translateName m) :=
  visitedNames_translate m hE hN v

/-- the side condition on the mapping, entry by entry: no entry maps a non-empty name to the empty name (in particular:
    no entry involves the empty name, the hypothesis of `C13_round_trip`) -/
theorem C16V_names_checked_nonempty_mapping (g : Graph) (tb : Tables) (X : Ext String) (m : List (String × String))
    (hne : ∀ p ∈ m, p.2 = X.empty → p.1 = X.empty) (hN : tb.ns.contains g.nameField = false) (v : Val String) :
    visitedNames g tb X (translateNs g tb X m v).1 = (visitedNames g tb X v).map (translateName m) :=
  visitedNames_translate m (mapNoNewEmpty_of_entries m X.empty hne) hN v

theorem C16V_names_checked_of_accepted_config (g : Graph) (tb : Tables) (X : Ext String) (m : List (String × String))
    (hacc : configAccepts X.empty m = true) (hN : tb.ns.contains g.nameField = false) (v : Val String) :
    visitedNames g tb X (translateNs g tb X m v).1 = (visitedNames g tb X v).map (translateName m) :=
  visitedNames_translate m (mapNoNewEmpty_of_nonempty m X.empty (nonempty_of_configAccepts hacc)) hN v

theorem C16V_visitor_failure_unchanged_by_translation (g : Graph) (tb : Tables) (X : Ext String)
    (m : List (String × String)) (hE : ∀ s, translateName m s = X.empty → s = X.empty) (v : Val String) :
    nsErr g tb X (translateNs g tb X m v).1 = nsErr g tb X v :=
  nsErr_translate m hE v

/-- the pipeline as a function of the ORIGINAL request: the access decision on the translated names of the request
    (translation on), on its own names (bypass header) -/
theorem C16V_decision_on_original_request (translate : Bool) (m : List (String × String)) (p : Policy) (svc : Service)
    (method : String) (g : Graph) (tb : Tables) (X : Ext String) (v : Val String)
    (hE : ∀ s, translateName m s = X.empty → s = X.empty) (hN : tb.ns.contains g.nameField = false) :
    inboundOnValue translate m p svc method g tb X v =
      aclUnaryOnV p svc method
        (if nsErr g tb X v then none
         else some (if translate then (visitedNames g tb X v).map (translateName m) else visitedNames g tb X v)) := by
  unfold inboundOnValue aclOnValue
  cases translate with
  | false => rfl
  | true =>
    simp only [if_true]
    rw [nsErr_translate m hE v, visitedNames_translate m hE hN v]

theorem C16V_forbidden_translated_name_refused (m : List (String × String)) (p : Policy) (svc : Service)
    (method : String) (g : Graph) (tb : Tables) (X : Ext String) (v : Val String)
    (hE : ∀ s, translateName m s = X.empty → s = X.empty) (hN : tb.ns.contains g.nameField = false)
    (hsvc : svc = .workflow ∨ svc = .admin) (n : String) (hn : n ∈ visitedNames g tb X v)
    (hf : isAllowed p.namespaces (translateName m n) = false) :
    inboundOnValue true m p svc method g tb X v = .denied := by
  apply C16V_forbidden_name_refused true m p svc method g tb X v hsvc (translateName m n) _ hf
  simp only [if_true]
  rw [visitedNames_translate m hE hN v]
  exact List.mem_map_of_mem hn

/-- the visitor does not fail on what the access check sees, the method passes the method-level checks (not on the
    deny list / allowed admin method) and every name found is allowed ⇒ forwarded -/
theorem C16V_all_allowed_forwarded (translate : Bool) (m : List (String × String)) (p : Policy) (svc : Service)
    (method : String) (g : Graph) (tb : Tables) (X : Ext String) (v : Val String)
    (herr : nsErr g tb X (if translate then (translateNs g tb X m v).1 else v) = false)
    (hdeny : svc = .workflow → denyList.contains method = false)
    (hadm : svc = .admin → isAllowed p.adminMethods method = true)
    (hall : ∀ n ∈ visitedNames g tb X (if translate then (translateNs g tb X m v).1 else v),
      isAllowed p.namespaces n = true) :
    inboundOnValue translate m p svc method g tb X v = .forward :=
  aclOnValue_forward p svc method g tb X _ herr hdeny hadm hall

/-- the visitor fails on what the access check sees ⇒ refused, never passed on unchecked -/
theorem C16V_unreadable_refused (translate : Bool) (m : List (String × String)) (p : Policy) (svc : Service)
    (method : String) (g : Graph) (tb : Tables) (X : Ext String) (v : Val String)
    (hsvc : svc = .workflow ∨ svc = .admin)
    (herr : nsErr g tb X (if translate then (translateNs g tb X m v).1 else v) = true) :
    inboundOnValue translate m p svc method g tb X v = .denied :=
  aclOnValue_denied_of_err p svc method g tb X _ hsvc herr

/-- the tables of the current tree satisfy `hN` -/
example : S2S.Gen.TG.tables.ns.contains S2S.Gen.TG.graph.nameField = false := by decide

/-! ### non-vacuity: the graph and tables of `Props/TranslateValEx.lean` (`Ex.g`, `Ex.tb`), names as strings -/
namespace Ex16
/-- event-type tokens: "started" (attributes type 2, carries a namespace), "signaled" (type 7, skippable) -/
def X : Ext String :=
  { empty := "", evAttr := fun t => if t = "started" then some 2 else if t = "signaled" then some 7 else none,
    eventTypeField := 4, variantField := 8, workflowEventField := 9, namespaceField := 1,
    eventsField := 15, indexedFieldsField := 16, lwerType := 30 }
def ev (ty : String) (links attrs : Val String) : Val String := .msg 1 [.tok ty, links, attrs]
def started (ns : String) : Val String := ev "started" (.nil .slice) (.msg 2 [.str ns, .nil .ptr])
/-- a skippable event with one link naming namespace `ns` -/
def linked (ns : String) : Val String :=
  ev "signaled" (.list [.msg 3 [.msg 4 [.msg 5 [.str ns]]]]) (.msg 7 [.str "someone"])
/-- a request: top-level `Namespace`, one history blob with one started event naming `inner`, an identity -/
def req (top inner : String) : Val String := .msg 0 [.str top, .list [.blobEv false [started inner]], .str "me"]
def policy : Policy := ⟨[], ["local-a", "local-b"]⟩
def toLocal : List (String × String) := [("remote-b", "local-b")]
example : visitedNames Ex.g Ex.tb X (req "local-a" "remote-b") = ["local-a", "remote-b"] := by decide +kernel
example : nsErr Ex.g Ex.tb X (req "local-a" "remote-b") = false := by decide +kernel

/-- allowed top-level name, forbidden name inside the blob event, nothing maps it: refused, header or not -/
example : ∀ translate, inboundOnValue translate [] policy .workflow "StartWorkflowExecution" Ex.g Ex.tb X
    (req "local-a" "remote-b") = .denied := by decide +kernel
/-- the hypothesis of `C16V_forbidden_name_refused` on this request -/
example : "remote-b" ∈ visitedNames Ex.g Ex.tb X (req "local-a" "remote-b") ∧ isAllowed policy.namespaces "remote-b" = false := by
  decide +kernel
/-- the forbidden name is mapped to an allowed one: forwarded when translation runs … -/
example : inboundOnValue true toLocal policy .workflow "StartWorkflowExecution" Ex.g Ex.tb X (req "local-a" "remote-b") = .forward := by
  decide +kernel
/-- … refused under the bypass header: the untranslated names are checked -/
example : inboundOnValue false toLocal policy .workflow "StartWorkflowExecution" Ex.g Ex.tb X (req "local-a" "remote-b") = .denied := by
  decide +kernel
/-- the names checked are the translated names -/
example : visitedNames Ex.g Ex.tb X (translateNs Ex.g Ex.tb X toLocal (req "local-a" "remote-b")).1 = ["local-a", "local-b"] := by
  decide +kernel
/-- translation can also turn an allowed request into a refused one (an allowed name mapped to a forbidden one) -/
example : inboundOnValue true [("local-b", "elsewhere")] policy .workflow "StartWorkflowExecution" Ex.g Ex.tb X (req "local-a" "local-b") = .denied
    ∧ inboundOnValue false [("local-b", "elsewhere")] policy .workflow "StartWorkflowExecution" Ex.g Ex.tb X (req "local-a" "local-b") = .forward := by
  decide +kernel
/-- the admin service: same check; a method outside the allowed admin methods is refused whatever the names -/
example : inboundOnValue true toLocal ⟨["AddOrUpdateRemoteCluster"], ["local-a", "local-b"]⟩ .admin "AddOrUpdateRemoteCluster" Ex.g Ex.tb X (req "local-a" "remote-b") = .forward
    ∧ inboundOnValue true toLocal ⟨["AddOrUpdateRemoteCluster"], ["local-a", "local-b"]⟩ .admin "DeleteWorkflowExecution" Ex.g Ex.tb X (req "local-a" "remote-b") = .denied := by
  decide +kernel
/-- a blob that does not decode: the visitor fails, the request is refused although every name it could read is allowed -/
def unreadable : Val String := .msg 0 [.str "local-a", .list [.blobRaw false "garbage"], .str "me"]
example : nsErr Ex.g Ex.tb X unreadable = true ∧ visitedNames Ex.g Ex.tb X unreadable = ["local-a"] := by decide +kernel
example : ∀ translate, inboundOnValue translate toLocal policy .workflow "StartWorkflowExecution" Ex.g Ex.tb X unreadable = .denied := by
  decide +kernel

/-! `C16V_names_checked_are_translated_names` needs its hypotheses -/

/-- a name mapped TO the empty name: the link namespace `a` stops the skip shortcut before translation, the empty name
    it becomes does not — the event is not walked by the access check, one name fewer is checked -/
theorem names_need_nonempty :
    visitedNames Ex.g Ex.tb X (translateNs Ex.g Ex.tb X [("a", "")] (.msg 0 [.str "top", .list [.blobEv false [linked "a"]], .str ""])).1
      = ["top"] ∧
    (visitedNames Ex.g Ex.tb X (.msg 0 [.str "top", .list [.blobEv false [linked "a"]], .str ""])).map (translateName [("a", "")])
      = ["top", ""] := by decide +kernel
/-- so with `a ↦ ""` the request is forwarded although the translation of one of its names (the empty name) is forbidden -/
example : inboundOnValue true [("a", "")] ⟨[], ["top"]⟩ .workflow "StartWorkflowExecution" Ex.g Ex.tb X
      (.msg 0 [.str "top", .list [.blobEv false [linked "a"]], .str ""]) = .forward
    ∧ isAllowed ["top"] (translateName [("a", "")] "a") = false := by decide +kernel
/-- the other direction is harmless (and covered by the theorem): the empty name mapped to a non-empty one.  A blob with a
    started event and a signaled event whose link namespace is empty: the blob is walked before and after -/
theorem empty_key_is_fine :
    visitedNames Ex.g Ex.tb X (.msg 0 [.str "top", .list [.blobEv false [started "b", linked ""]], .str ""]) = ["top", "b", ""] ∧
    visitedNames Ex.g Ex.tb X (translateNs Ex.g Ex.tb X [("", "x")] (.msg 0 [.str "top", .list [.blobEv false [started "b", linked ""]], .str ""])).1
      = ["top", "b", "x"] := by decide +kernel
example : ∀ s, translateName [("", "x")] s = X.empty → s = X.empty :=
  mapNoNewEmpty_of_entries _ _ (by decide)

/-- `Name` among the namespace field names: `NamespaceInfo.Name` goes through the matcher twice (by type, then by name),
    so a chain mapping a→b→c leaves `c` where the access check expects `b` -/
def gN : Graph := { Ex.g with types := Ex.g.types ++ [⟨8, [⟨14, true, true, false, false, []⟩]⟩], namespaceInfo := 8 }
def tbN : Tables := { Ex.tb with ns := [1, 7, 14] }
theorem names_need_nameOnce :
    visitedNames gN tbN X (translateNs gN tbN X [("a", "b"), ("b", "c")] (.msg 8 [.str "a"])).1 = ["c"] ∧
    (visitedNames gN tbN X (.msg 8 [.str "a"])).map (translateName [("a", "b"), ("b", "c")]) = ["b"] := by decide +kernel
end Ex16

end S2S.TranslateVal
