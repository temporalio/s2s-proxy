import S2S.Proofs.RegistryLive
/-!
# C08 — reconnecting streams never orphan, steal or crash a shard's registration

Model: `S2S/Model/Registry.lean` — the five registries of `shardManagerImpl` (`localShards`,
`remoteSendChannels`, `localAckChannels`, `localReceiverCancelFuncs`, `activeReceivers`) as finite maps
shard ↦ incarnation token, and the life cycle of the `proxyStreamSender` / `proxyStreamReceiver` pair that
every routed stream creates, one atomic step of one goroutine per `Act`.  Every statement quantifies over
**every** list of actions: any number of shards, any number of incarnations per shard, every interleaving of
their steps with each other, with stream failures, with receivers that end on their own (`Act.selfEnd`: the upstream
`Send` fails, the shared latch ends receiver and sender), with deliveries, watermark broadcasts and replays.

The full statement `C08_full` (below) is FALSE of the current tree.  Each way of breaking it is one interleaving
window; for each window this file contains a kernel-checked witness (`C08_refuted_…`, replayed on the real code by
the harness on every run: known findings `C08-…` in known_findings.json) together with the kernel-checked fact that
the witness violates exactly ONE of the explicit hypotheses of `S2S/Spec/Registry.lean` and satisfies all others
(`verdict`).  What is proved for ALL runs (induction over the invariants of `S2S/Proofs/Registry*.lean`):

* `C08_identity_checked_registries` — no hypothesis: the two identity-checked registries never keep or lose a
  foreign entry, in any interleaving, for any configuration;
* `C08_no_crash` — no hypothesis: no send reaches a closed channel outside `recover`, in any interleaving
  (true since the fix of C08-replay-send-on-closed-channel; before it: `C08_refuted_before_fix_replay_send_on_closed_channel`);
* `C08_partial_cleanup_owns` — a clean-up removes only its own entries                        (`StampsOK`, `RecvOK`);
* `C08_partial_all_done_empty` — when every stream has ended nothing is registered            (`RecvOK`, `OpenOK`);
* `C08_partial_exact_at_quiescence` — at quiescence every registry holds exactly the newest live incarnation
                                                                       (`StampsOK`, `RecvOK`, `OpenOK`, `OrderOK`);
* `C08_partial` — all together: `Good` for every run satisfying `AllHyps`.

Hypotheses (decidable predicates on (state, action), threaded along the run by `Along`):
`StampsOK` two registrations of a shard see different clock values (environment);  `RecvOK` receiver start-ups and
un-cancelled receiver clean-ups of a shard are serial (windows iv, vii);  `OpenOK` the receiver's upstream stream opens
(window v);  `OrderOK` the incarnations of a shard start in the order in which their streams were opened (windows vi,
viii).  Two further hypotheses belong to repaired defects and enter no theorem: `UnregOK` (window ii, second delete of
`UnregisterShard`) and `ReplayOK` (window iii, replay send without `recover`); the Spec defines them to say what the
two before-fix witnesses do.
-/
namespace S2S.Registry

/-- **the full property**: for every interleaving, no crash, no clean-up removes a foreign entry, at quiescence the
    registries hold exactly the newest live incarnation of every shard, and once all have ended all are empty -/
def C08_full (c : Cfg) : Prop := ∀ acts : List Act, Good (run c State.init acts)

/-- **no hypothesis**: in every interleaving an entry of `remoteSendChannels` / `localAckChannels` belongs to an
    incarnation of that shard that registered it and has not yet run its own identity-checked removal; so once
    every incarnation has ended both registries are empty. -/
theorem C08_identity_checked_registries (c : Cfg) (acts : List Act) :
    let σ := run c State.init acts
    (∀ sh t, aget σ.sendChans sh = some t →
        t < σ.next ∧ (σ.inc t).shard = sh ∧ (σ.inc t).spc ≠ .start ∧ (σ.inc t).spc ≠ .done) ∧
    (∀ sh t, aget σ.ackChans sh = some t →
        t < σ.next ∧ (σ.inc t).shard = sh ∧
          ((σ.inc t).rpc = .ackSet ∨ (σ.inc t).rpc = .cancelSet ∨ (σ.inc t).rpc = .running)) ∧
    (AllDone σ → ∀ sh, aget σ.sendChans sh = none ∧ aget σ.ackChans sh = none) :=
  have I := invU_run c acts
  ⟨I.send, I.ack, fun hd _ => ⟨I.send_empty fun t h _ => (hd t h).1, I.ack_empty fun t h _ => (hd t h).2⟩⟩

/-- **no crash**, no hypothesis: every send site of the current tree is guarded by `recover`, so in EVERY interleaving
    — including a watermark replay that finds the closed, still registered channel of a sender that is shutting down —
    no send on a closed channel escapes. -/
theorem C08_no_crash (acts : List Act) : (run Cfg.cur State.init acts).crashed = false :=
  noCrash_run rfl rfl rfl acts

/-- **clean-up removes only its own entries** (windows (iv), (vii) excluded, stamps distinct).  `UnregisterShard` has had
    no second delete since its fix (4cf9556), so it needs no hypothesis. -/
theorem C08_partial_cleanup_owns (acts : List Act) (h : Along Cfg.cur OwnHyp State.init acts) :
    (run Cfg.cur State.init acts).stolen = [] :=
  (invOwn_run rfl rfl acts h).clean

/-- **nothing remains** (additionally window (v) excluded; windows (iv), (vii) matter only for `activeReceivers`): when every
    incarnation has ended all five registries are empty -/
theorem C08_partial_all_done_empty (acts : List Act) (h : Along Cfg.cur EndHyp State.init acts) :
    AllDone (run Cfg.cur State.init acts) → Empty (run Cfg.cur State.init acts) :=
  empty_of_invEnd (invEnd_run rfl acts h)

/-- **exactly the newest live incarnation** (additionally windows (vi), (viii) excluded): at quiescence the five registries hold,
    for every shard, exactly the newest incarnation whose sender / receiver is live, and nothing when none is -/
theorem C08_partial_exact_at_quiescence (acts : List Act) (h : Along Cfg.cur AllHyps State.init acts) :
    Quiescent (run Cfg.cur State.init acts) → Exact (run Cfg.cur State.init acts) :=
  exact_of_invAll (invAll_run rfl rfl acts h)

/-- **C08 under the explicit hypotheses**: every run of the current tree that avoids the remaining four windows is good -/
theorem C08_partial (acts : List Act) (h : Along Cfg.cur AllHyps State.init acts) :
    Good (run Cfg.cur State.init acts) :=
  ⟨C08_no_crash acts,
   C08_partial_cleanup_owns acts (along_mono (fun _ _ ⟨hs, hr, _, _⟩ => ⟨hs, hr⟩) acts _ h),
   C08_partial_exact_at_quiescence acts h,
   C08_partial_all_done_empty acts (along_mono (fun _ _ ⟨_, hr, ho, _⟩ => ⟨hr, ho⟩) acts _ h)⟩

/-! ## witnesses (every one is replayed on the real code by `go/eng/c08_registry_test.go`) -/

/-- undisturbed start-up of incarnation `i` (nothing registered for its shard) -/
def up (i : Tok) : List Act :=
  [.rGet i, .sSet i, .tick, .sAdd i, .sSnap i, .sNotifyDone i, .rOpen i true, .rSetAck i, .rSetCancel i, .rRegActive i]
/-- start-up of `i` that finds and terminates its predecessor -/
def upTerm (i : Tok) : List Act :=
  [.rGet i, .sSet i, .tick, .sAdd i, .sSnap i, .sNotifyDone i, .rCancel i, .rRmCancel i, .rForceAck i, .rOpen i true,
   .rSetAck i, .rSetCancel i, .rRegActive i]
def downS (i : Tok) : List Act := [.sClose i, .sUnregCheck i, .sUnregAgain i, .sRmChan i]
def downR (i : Tok) : List Act := [.rRmAck i, .rCheck i, .rRmOwnCancel i, .rUnregActive i]

/-- what a witness shows: the outcome, and which hypotheses its run satisfies (`unreg`, `replay`: the two historic
    windows, closed by fixes — no theorem of the current tree needs them) -/
structure Verdict where
  (crashed stoleForeign quiescent exact201 allDone empty201 : Bool)
  (stamps unreg replay recv opens order : Bool)
deriving DecidableEq, Repr

def verdict (c : Cfg) (w : List Act) : Verdict :=
  let σ := run c State.init w
  { crashed := σ.crashed, stoleForeign := !σ.stolen.isEmpty, quiescent := decide (Quiescent σ),
    exact201 := decide (ExactAt σ 201), allDone := decide (AllDone σ), empty201 := decide (EmptyAt σ 201),
    stamps := decide (Along c StampsOK State.init w), unreg := decide (Along c UnregOK State.init w),
    replay := decide (Along c ReplayOK State.init w), recv := decide (Along c RecvOK State.init w),
    opens := decide (Along c OpenOK State.init w), order := decide (Along c OrderOK State.init w) }

/-- window (ii), BEFORE ITS FIX: incarnation 0 sits between the two deletes of `UnregisterShard`, incarnation 1 registers, the
    second delete wipes its entry.  (On the current tree the same schedule is harmless: there is no second delete.) -/
def wUnreg : List Act :=
  [.open 201 1] ++ up 0 ++ [.brk 0, .sNotice 0, .sClose 0, .sUnregCheck 0] ++ downR 0 ++
  [.open 201 1, .rGet 1, .sSet 1, .tick, .sAdd 1, .sUnregAgain 0, .sRmChan 0,
   .sSnap 1, .sNotifyDone 1, .rOpen 1 true, .rSetAck 1, .rSetCancel 1, .rRegActive 1]

/-- window (iii), BEFORE ITS FIX: a receiver holds a watermark; incarnation 1 of shard 201 is inside `RegisterShard`,
    incarnation 2 replaces the channel, runs and closes it; incarnation 1's replay finds the closed channel: a send
    without `recover`.  (On the current tree the send is caught.) -/
def wReplay : List Act :=
  [.open 101 2] ++ up 0 ++ [.wm 0,
   .open 201 1, .rGet 1, .sSet 1, .tick, .sAdd 1, .rOpen 1 true, .rSetAck 1, .rSetCancel 1, .rRegActive 1,
   .open 201 1, .rGet 2, .sSet 2, .tick, .sAdd 2, .sSnap 2, .sLook 2 0, .sSend 2, .sNotifyDone 2,
   .brk 2, .sNotice 2, .sClose 2,
   .sSnap 1, .sLook 1 0, .sSend 1]

/-- window (iv): the old receiver passes its context check, THEN the successor terminates it and registers; the old
    receiver's unconditional removals delete the successor's cancel function and active-receiver entry -/
def wCleanup : List Act :=
  [.open 201 1] ++ up 0 ++ [.brk 0, .sNotice 0] ++ downS 0 ++ [.rRmAck 0, .rCheck 0, .open 201 1] ++ upTerm 1 ++
  [.rRmOwnCancel 0, .rUnregActive 0]

/-- window (v): the successor terminates the old receiver and then fails to open its own stream; the old receiver
    (cancelled by a successor) skips its removals: its active-receiver entry stays for ever -/
def wOpenFail : List Act :=
  [.open 201 1] ++ up 0 ++
  [.open 201 1, .rGet 1, .sSet 1, .tick, .sAdd 1, .sSnap 1, .sNotifyDone 1, .rCancel 1, .rRmCancel 1, .rForceAck 1,
   .rOpen 1 false, .rNotice 0] ++ downS 0 ++ [.rRmAck 0, .rCheck 0, .brk 1, .sNotice 1] ++ downS 1

/-- window (vi): the sender of the OLDER incarnation registers after the newer one (and after having been told to
    shut down), overwrites its entries and then removes "its own": the live newest incarnation is unregistered -/
def wLate : List Act :=
  [.open 201 1, .rGet 0, .rOpen 0 true, .rSetAck 0, .rSetCancel 0, .rRegActive 0, .open 201 1] ++ upTerm 1 ++
  [.rNotice 0, .rRmAck 0, .rCheck 0, .sSet 0, .tick, .sAdd 0, .sSnap 0, .sNotifyDone 0] ++ downS 0

/-- window (vii): two receiver start-ups overlap: incarnation 1 looks the predecessor up, incarnation 2 starts and
    registers, incarnation 1 continues: evicts 2's entries, registers, ends — live incarnation 2 has no receiver entry -/
def wOverlap : List Act :=
  [.open 201 1] ++ up 0 ++ [.open 201 1, .rGet 1, .sSet 1, .tick, .sAdd 1, .sSnap 1, .sNotifyDone 1, .open 201 1] ++
  upTerm 2 ++ [.rNotice 0] ++ downS 0 ++ [.rRmAck 0, .rCheck 0,
   .rCancel 1, .rRmCancel 1, .rForceAck 1, .rOpen 1 true, .rSetAck 1, .rSetCancel 1, .rRegActive 1,
   .brk 1, .sNotice 1] ++ downS 1 ++ downR 1

/-- environment: two registrations in one clock instant — `UnregisterShard` of the old one deletes the new entry -/
def wStamps : List Act :=
  [.open 201 1] ++ up 0 ++
  [.open 201 1, .rGet 1, .sSet 1, .sAdd 1, .sSnap 1, .sNotifyDone 1, .rCancel 1, .rRmCancel 1, .rForceAck 1, .rOpen 1 true,
   .rSetAck 1, .rSetCancel 1, .rRegActive 1, .rNotice 0] ++ downS 0 ++ [.rRmAck 0, .rCheck 0]

/-- the plain reconnect: incarnation 1 replaces incarnation 0, which cleans up afterwards -/
def wReconnect : List Act :=
  [.open 201 1] ++ up 0 ++ [.open 201 1] ++ upTerm 1 ++ [.rNotice 0] ++ downS 0 ++ downR 0

/-- **fixed finding C08-unregister-double-delete**: before the fix the schedule lost incarnation 1's `localShards` entry
    (only the historic hypothesis `UnregOK` is violated); on the current tree the same schedule ends exactly registered. -/
theorem C08_refuted_before_fix_unregister_double_delete :
    verdict Cfg.beforeUnregFix wUnreg =
      { crashed := false, stoleForeign := true, quiescent := true, exact201 := false, allDone := false, empty201 := false,
        stamps := true, unreg := false, replay := true, recv := true, opens := true, order := true } ∧
    verdict Cfg.cur wUnreg =
      { crashed := false, stoleForeign := false, quiescent := true, exact201 := true, allDone := false, empty201 := false,
        stamps := true, unreg := false, replay := true, recv := true, opens := true, order := true } := by decide +kernel

/-- **fixed finding C08-replay-send-on-closed-channel**: before the fix the schedule crashed the process (only the historic
    hypothesis `ReplayOK` is violated); on the current tree the same send is swallowed by `recover`. -/
theorem C08_refuted_before_fix_replay_send_on_closed_channel :
    verdict Cfg.beforeReplayFix wReplay =
      { crashed := true, stoleForeign := false, quiescent := false, exact201 := false, allDone := false, empty201 := false,
        stamps := true, unreg := true, replay := false, recv := true, opens := true, order := true } ∧
    (run Cfg.cur State.init wReplay).crashed = false ∧ (run Cfg.cur State.init wReplay).caught = 1 := by decide +kernel

theorem C08_refuted_cleanup_check_then_remove :
    verdict Cfg.cur wCleanup =
      { crashed := false, stoleForeign := true, quiescent := true, exact201 := false, allDone := false, empty201 := false,
        stamps := true, unreg := true, replay := true, recv := false, opens := true, order := true } := by decide +kernel

theorem C08_refuted_stale_active_receiver :
    verdict Cfg.cur wOpenFail =
      { crashed := false, stoleForeign := false, quiescent := true, exact201 := false, allDone := true, empty201 := false,
        stamps := true, unreg := true, replay := true, recv := true, opens := false, order := true } := by decide +kernel

theorem C08_refuted_late_start_of_older_incarnation :
    verdict Cfg.cur wLate =
      { crashed := false, stoleForeign := false, quiescent := true, exact201 := false, allDone := false, empty201 := false,
        stamps := true, unreg := true, replay := true, recv := true, opens := true, order := false } := by decide +kernel

theorem C08_refuted_overlapping_receiver_startups :
    verdict Cfg.cur wOverlap =
      { crashed := false, stoleForeign := false, quiescent := true, exact201 := false, allDone := false, empty201 := false,
        stamps := true, unreg := true, replay := true, recv := false, opens := true, order := true } := by decide +kernel

/-- the stamp hypothesis is necessary (environment assumption, not a finding: real clocks give distinct stamps) -/
theorem C08_refuted_without_distinct_stamps :
    verdict Cfg.cur wStamps =
      { crashed := false, stoleForeign := true, quiescent := true, exact201 := false, allDone := false, empty201 := false,
        stamps := false, unreg := true, replay := true, recv := true, opens := true, order := true } := by decide +kernel

/-- **fixed finding C08(i)** (`fix:` 0c8aedd): with the pre-fix unconditional receiver clean-up the PLAIN reconnect —
    every hypothesis holds — deleted the successor's cancel function and active-receiver entry. -/
theorem C08_refuted_before_fix :
    verdict Cfg.preFix wReconnect =
      { crashed := false, stoleForeign := true, quiescent := true, exact201 := false, allDone := false, empty201 := false,
        stamps := true, unreg := true, replay := true, recv := true, opens := true, order := true } := by decide +kernel

/-- the full statement is false of the current tree (four windows remain; here: window (iv)) -/
theorem C08_refuted : ¬ C08_full Cfg.cur := fun h => by
  have := congrArg Verdict.stoleForeign C08_refuted_cleanup_check_then_remove
  simp [verdict, (h wCleanup).2.1] at this

/-- the plain reconnect satisfies every hypothesis on the current tree and ends exactly registered (incarnation 1
    holds all five registries of shard 201, incarnation 0 has ended) -/
example : verdict Cfg.cur wReconnect =
      { crashed := false, stoleForeign := false, quiescent := true, exact201 := true, allDone := false, empty201 := false,
        stamps := true, unreg := true, replay := true, recv := true, opens := true, order := true } ∧
    aget (run Cfg.cur State.init wReconnect).actives 201 = some 1 ∧
    liveReceiver (run Cfg.cur State.init wReconnect) 201 = some 1 := by decide +kernel

/-- a replay that does reach the new incarnation's open channel, and a send on a closed channel swallowed by `recover` -/
example : (run Cfg.cur State.init ([.open 101 2] ++ up 0 ++ [.wm 0, .open 201 1, .rGet 1, .sSet 1, .tick, .sAdd 1, .sSnap 1,
      .sLook 1 0, .sSend 1, .sNotifyDone 1, .brk 1, .sNotice 1, .sClose 1, .bcast 1])).caught = 1 := by decide +kernel

/-- everything ends, nothing remains -/
example : let σ := run Cfg.cur State.init (wReconnect ++ [.stop] ++ downS 1 ++ downR 1)
    AllDone σ ∧ EmptyAt σ 201 ∧ Along Cfg.cur AllHyps State.init (wReconnect ++ [.stop] ++ downS 1 ++ downR 1) := by decide +kernel

/-! ## the receiver ends ON ITS OWN (`Act.selfEnd`: the upstream `Send` of `sendAck` fails; nothing broken, nobody cancelled) -/

/-- `selfEnd` is what ends the incarnation: before it neither clean-up is enabled (the incoming stream is intact, no
    successor, the lifetime goes on); it is disabled unless the receiver is `running` (here: receiver 0 still starting
    up, and receiver 0 after its latch fired); it moves no pc, trips the shared latch, leaves `cancelled`/`broken` unset -/
example : let σ := run Cfg.cur State.init ([.open 201 1] ++ up 0)
    step Cfg.cur σ (.sClose 0) = none ∧ step Cfg.cur σ (.rRmAck 0) = none ∧
    step Cfg.cur σ (.sNotice 0) = none ∧ step Cfg.cur σ (.rNotice 0) = none ∧
    step Cfg.cur (run Cfg.cur State.init [.open 201 1, .rGet 0, .sSet 0]) (.selfEnd 0) = none ∧
    step Cfg.cur (run Cfg.cur σ [.selfEnd 0]) (.selfEnd 0) = none ∧
    (let x := (run Cfg.cur σ [.selfEnd 0]).inc 0
     x.spc = .running ∧ x.rpc = .running ∧ x.shutdown = true ∧ x.cancelled = false ∧ x.broken = false) ∧
    (step Cfg.cur (run Cfg.cur σ [.selfEnd 0]) (.sClose 0)).isSome ∧
    (step Cfg.cur (run Cfg.cur σ [.selfEnd 0]) (.rRmAck 0)).isSome := by decide +kernel

/-- start-up, the receiver ends on its own, both clean-ups (the receiver's un-cancelled one: all three removals): every
    registry of the shard is empty, both workers are `.done`, every hypothesis holds along the run -/
example : let w := [.open 201 1] ++ up 0 ++ [.selfEnd 0] ++ downS 0 ++ downR 0
    let σ := run Cfg.cur State.init w
    (σ.inc 0).spc = .done ∧ (σ.inc 0).rpc = .done ∧ (σ.inc 0).cancelled = false ∧ AllDone σ ∧ EmptyAt σ 201 ∧
    σ.localShards = [] ∧ σ.sendChans = [] ∧ σ.ackChans = [] ∧ σ.cancels = [] ∧ σ.actives = [] ∧
    σ.stolen = [] ∧ σ.crashed = false ∧ Along Cfg.cur AllHyps State.init w := by decide +kernel

/-- the same with the receiver's clean-up BEFORE the sender's (the two workers of an incarnation are not ordered) -/
example : let w := [.open 201 1] ++ up 0 ++ [.selfEnd 0] ++ downR 0 ++ downS 0
    let σ := run Cfg.cur State.init w
    AllDone σ ∧ EmptyAt σ 201 ∧ σ.stolen = [] ∧ Along Cfg.cur AllHyps State.init w := by decide +kernel

/-- a successor opens while the self-ended receiver is in its clean-up, BEFORE its context check (`cleanCheck`): the
    successor finds and cancels it, evicts its entries and registers; the old receiver then sees its cancelled context
    and skips its removals.  Every hypothesis holds; incarnation 1 ends up exactly registered, incarnation 0 has ended. -/
def wSelfEndReconnect : List Act :=
  [.open 201 1] ++ up 0 ++ [.selfEnd 0, .rRmAck 0, .open 201 1] ++ upTerm 1 ++ [.rCheck 0] ++ downS 0

example : verdict Cfg.cur wSelfEndReconnect =
      { crashed := false, stoleForeign := false, quiescent := true, exact201 := true, allDone := false, empty201 := false,
        stamps := true, unreg := true, replay := true, recv := true, opens := true, order := true } ∧
    (let σ := run Cfg.cur State.init wSelfEndReconnect
     (σ.inc 0).spc = .done ∧ (σ.inc 0).rpc = .done ∧ (σ.inc 0).cancelled = true ∧
     aget σ.cancels 201 = some 1 ∧ aget σ.actives 201 = some 1 ∧ liveReceiver σ 201 = some 1) := by decide +kernel

/-- the successor opens AFTER the self-ended receiver passed its context check (`cleanCancel`): this is window (iv) again
    (`C08-cleanup-check-then-remove`), now reached without any stream failure — the old receiver's unconditional removals
    delete the successor's cancel function and active-receiver entry.  Exactly `RecvOK` is violated (at `rGet 1`), as the
    theorems require. -/
def wSelfEndCleanup : List Act :=
  [.open 201 1] ++ up 0 ++ [.selfEnd 0] ++ downS 0 ++ [.rRmAck 0, .rCheck 0, .open 201 1] ++ upTerm 1 ++
  [.rRmOwnCancel 0, .rUnregActive 0]

example : verdict Cfg.cur wSelfEndCleanup =
      { crashed := false, stoleForeign := true, quiescent := true, exact201 := false, allDone := false, empty201 := false,
        stamps := true, unreg := true, replay := true, recv := false, opens := true, order := true } ∧
    (run Cfg.cur State.init wSelfEndCleanup).stolen = [(0, .cancels, 1), (0, .actives, 1)] := by decide +kernel

end S2S.Registry
