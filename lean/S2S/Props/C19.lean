import S2S.Model.Tls
/-!
# C19 — TLS endpoints admit only peers authenticated by the configured CA

Decision-logic theorems over `S2S/Model/Tls.lean`: the configuration the code assembles
(`serverTLS`, `clientTLS`) composed with a decision model of `crypto/tls` admission.  The harness
compares the assembled `tls.Config` fields with the model for every configuration and validates the
admission model with real handshakes for the full cross product of credentials × configurations
× roles.  X.509 path validation is modelled (`chainsToCA`), not verified.
-/
namespace S2S.Tls

/-- Server role, verification configured: every admitted peer presented a certificate that chains to
    the configured CA — for every configuration. -/
theorem C19_server_admits_only_ca_peers (c : Config) (conf : ServerConf) (cred : Cred)
    (hv : c.skipVerify = false) (hb : serverTLS curVerifyMode c = .ok conf)
    (ha : serverAdmits conf cred = true) : chainsToCA cred = true ∧ cred ≠ .none := by
  unfold serverTLS curVerifyMode at hb
  cases hen : c.isEnabled <;> simp [hen, hv] at hb
  split at hb
  · injection hb with hb; subst hb
    simp [serverAdmits] at ha
    exact ⟨ha.2.1, by intro h; simp [h] at ha⟩
  · cases hb

/-- Client role, verification configured with a CA file: every admitted server chains to the
    configured CA and matches the configured name. -/
theorem C19_client_admits_only_ca_servers (c : Config) (conf : ClientConf) (cred : Cred)
    (hv : c.skipVerify = false) (hca : c.caFile ≠ .unset) (hb : clientTLS c = .ok conf)
    (ha : clientAdmits conf cred = true) : chainsToCA cred = true ∧ nameMatches cred = true := by
  unfold clientTLS at hb
  cases hen : c.isEnabled <;> simp [hen, hv] at hb
  cases hsn : c.serverName <;> simp [hsn] at hb
  cases hf : c.caFile <;> simp [hf, caLoads] at hb hca
  · subst hb
    simp [clientAdmits] at ha
    exact ⟨ha.2.1, ha.2.2⟩

/-- A CA bundle that cannot be loaded or contains no CA certificate never yields an endpoint when
    verification is on (start-up error, fails closed). -/
theorem C19_bad_ca_bundle_fails_closed (c : Config) (hen : c.isEnabled = true) (hv : c.skipVerify = false)
    (hca : c.caFile = .noCACert ∨ c.caFile = .unreadable) :
    serverTLS curVerifyMode c = .error ∧ clientTLS c ≠ .ok { insecureSkipVerify := false, serverNameSet := true, customRoots := true, hasCert := c.hasCertKey } := by
  rcases hca with h | h <;> simp [serverTLS, clientTLS, hen, hv, h, caLoads] <;> cases c.serverName <;> simp

/-- Explicitly disabling verification is the only way to relax admission: any configuration that
    admits a self-signed, foreign-CA, expired, wrong-usage or absent certificate on either role has
    `skipVerify = true` (client role: or relies on the host's system roots because no CA file is set). -/
theorem C19_only_skip_relaxes (c : Config) (cred : Cred) (hbad : chainsToCA cred = false) :
    (∀ conf, serverTLS curVerifyMode c = .ok conf → serverAdmits conf cred = true → c.skipVerify = true) ∧
    (∀ conf, clientTLS c = .ok conf → clientAdmits conf cred = true → c.skipVerify = true ∨ c.caFile = .unset) := by
  constructor
  · intro conf hb ha
    cases hs : c.skipVerify
    · have := C19_server_admits_only_ca_peers c conf cred hs hb ha
      simp [hbad] at this
    · rfl
  · intro conf hb ha
    cases hs : c.skipVerify
    · by_cases hca : c.caFile = .unset
      · exact Or.inr hca
      · have := C19_client_admits_only_ca_servers c conf cred hs hca hb ha
        simp [hbad] at this
    · exact Or.inl rfl

/-- The pinned tree's server mode (`RequireAnyClientCert`) admitted a self-signed client although
    verification was configured. (Fixed finding.) -/
theorem C19_refuted_before_fix :
    let c : Config := { hasCertKey := true, serverName := true, caFile := .good, skipVerify := false }
    ∃ conf, serverTLS .requireAnyClientCert c = .ok conf ∧ serverAdmits conf .selfSigned = true ∧ chainsToCA .selfSigned = false :=
  ⟨{ clientAuth := .requireAnyClientCert, hasCAs := true, hasCert := true }, by decide, by decide, by decide⟩

/-- non-vacuity: the same configuration on the current tree admits the valid peer and refuses the self-signed one. -/
example :
    let c : Config := { hasCertKey := true, serverName := true, caFile := .good, skipVerify := false }
    ∃ conf, serverTLS curVerifyMode c = .ok conf ∧ serverAdmits conf .validChain = true ∧ serverAdmits conf .selfSigned = false :=
  ⟨{ clientAuth := .requireAndVerifyClientCert, hasCAs := true, hasCert := true }, by decide, by decide, by decide⟩

end S2S.Tls
