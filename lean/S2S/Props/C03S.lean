import S2S.Proofs.RoutingLateInv
/-!
# C03S — an acknowledgement that arrives late is still right

`C01_never_acks_unconfirmed` and `C03_acks_monotone_bounded` judge an acknowledgement at the step that SENDS it (the
model's `rack` / `tick` step is atomic).  In the real system the receiver's `Send` can block (a source cluster that is
slow to read), and in any case the acknowledgement ARRIVES later than it was sent, while the machine keeps running: more
batches are received, more confirmations come in.  What the source cluster relies on is what it has received so far —
some PREFIX of `acksSent` — judged against the state at that LATER time.

Setting, for all `ns nt` and all action lists `pre post` with `EnvOK Cfg.cur (State.init ns nt) (pre ++ post)` and
`NoFaults (pre ++ post)`:  `σi = run Cfg.cur (State.init ns nt) pre` (the state in which the acknowledgement had been
sent), `σj = run Cfg.cur σi post = run Cfg.cur (State.init ns nt) (pre ++ post)` (`C03S_run_append`; the later state).

1. `C03S_acks_history_grows`: `σi.acksSent <+: σj.acksSent` — what has been sent is a prefix of what will have been sent
   (this one needs neither hypothesis; see `Late.run_acks_prefix`: every configuration, faults included).
2. `C03S_late_ack_still_safe`: an acknowledgement sent at any earlier point covers, when judged at any LATER state
   (tasks received in between included), only confirmed tasks.
3. `C03S_visible_prefix_monotone_bounded`: in every reachable fault-free state, every prefix of the history (what the
   source cluster has seen) is non-decreasing and bounded by the last exclusive high watermark received.

Side conditions: exactly those of C01 / C03 (`EnvOK`, `NoFaults`).

4. `C03S_late_ack_safe_modulo_known` (runs WITH stream breaks and re-opens, hypothesis `EnvOKT` of
   `Spec/RoutingFaultsTight.lean`): an acknowledgement sent at any earlier point covers, judged at any later state with
   the ghost bookkeeping of that later state, only tasks that are `Confirmed` or `ExcusedT` (the two recorded findings
   `C04-target-break-loses-inflight`, `C04-source-restart-forgets-targets`, tight form).
-/
namespace S2S.Routing

theorem C03S_run_append (c : Cfg) (σ : State) (pre post : List Act) :
    run c σ (pre ++ post) = run c (run c σ pre) post :=
  run_append c σ pre post

/-- **C03S (1)**: the history of sent acknowledgements only grows. -/
theorem C03S_acks_history_grows (ns nt : Nat) (pre post : List Act)
    (_henv : EnvOK Cfg.cur (State.init ns nt) (pre ++ post)) (_hnf : NoFaults (pre ++ post)) (s : SId) :
    ((run Cfg.cur (State.init ns nt) pre).src s).acksSent <+:
      ((run Cfg.cur (run Cfg.cur (State.init ns nt) pre) post).src s).acksSent :=
  Late.run_acks_prefix Cfg.cur _ post s

theorem C03S_confirmed_mono_step {c : Cfg} {σ σ' : State} {a : Act} (h : step c σ a = some σ')
    {s : SId} {id : Int} {t : TId} (hc : Confirmed σ s id t) : Confirmed σ' s id t :=
  (Late.step_confirmed h t).subset hc

theorem C03S_acks_le_lastHigh (ns nt : Nat) (acts : List Act)
    (henv : EnvOK Cfg.cur (State.init ns nt) acts) (hnf : NoFaults acts) (s : SId) :
    ∀ v ∈ ((run Cfg.cur (State.init ns nt) acts).src s).acksSent,
      v ≤ ((run Cfg.cur (State.init ns nt) acts).src s).lastHigh :=
  ((Late.linv_reach cur_seedAcks ns nt acts henv hnf).hist s).le_lastHigh

/-- the invariant form of (2): in every reachable fault-free state, EVERY acknowledgement in the history covers, among
    the tasks received so far, only confirmed ones (no `s < ns` needed) -/
theorem C03S_history_safe (ns nt : Nat) (acts : List Act)
    (henv : EnvOK Cfg.cur (State.init ns nt) acts) (hnf : NoFaults acts) :
    ∀ s, ∀ v ∈ ((run Cfg.cur (State.init ns nt) acts).src s).acksSent,
      ∀ p ∈ ((run Cfg.cur (State.init ns nt) acts).src s).received, p.1 < v →
        Confirmed (run Cfg.cur (State.init ns nt) acts) s p.1 p.2 :=
  (Late.linv_reach cur_seedAcks ns nt acts henv hnf).safe

/-- **C03S (2)**: an acknowledgement sent at any earlier point (`σi`) covers, when judged at any later state (`σj`,
    including the tasks received in between), only confirmed tasks. -/
theorem C03S_late_ack_still_safe (ns nt : Nat) (pre post : List Act)
    (henv : EnvOK Cfg.cur (State.init ns nt) (pre ++ post)) (hnf : NoFaults (pre ++ post)) :
    ∀ s, s < ns → ∀ v ∈ ((run Cfg.cur (State.init ns nt) pre).src s).acksSent,
      ∀ p ∈ ((run Cfg.cur (run Cfg.cur (State.init ns nt) pre) post).src s).received, p.1 < v →
        Confirmed (run Cfg.cur (run Cfg.cur (State.init ns nt) pre) post) s p.1 p.2 := by
  intro s _ v hv p hp hlt
  have hv' := (Late.run_acks_prefix Cfg.cur (run Cfg.cur (State.init ns nt) pre) post s).subset hv
  rw [← run_append] at hv' hp ⊢
  exact C03S_history_safe ns nt (pre ++ post) henv hnf s v hv' p hp hlt

/-- **C03S (3)**: in every reachable fault-free state, every prefix of the acknowledgement history (what the source
    cluster has received so far) is non-decreasing and bounded by the last exclusive high watermark received. -/
theorem C03S_visible_prefix_monotone_bounded (ns nt : Nat) (acts : List Act)
    (henv : EnvOK Cfg.cur (State.init ns nt) acts) (hnf : NoFaults acts) (s : SId) (k : Nat) :
    ((((run Cfg.cur (State.init ns nt) acts).src s).acksSent.take k).Pairwise (· ≤ ·)) ∧
    ∀ v ∈ ((run Cfg.cur (State.init ns nt) acts).src s).acksSent.take k,
      v ≤ ((run Cfg.cur (State.init ns nt) acts).src s).lastHigh := by
  have H := (Late.linv_reach cur_seedAcks ns nt acts henv hnf).hist s
  exact ⟨H.sorted.sublist (List.take_sublist _ _), fun v hv => H.le_lastHigh v (List.mem_of_mem_take hv)⟩

theorem C03S_runT_state (c : Cfg) (σ : State) (γ : GhostT) (acts : List Act) :
    (Late.runT c σ γ acts).1 = run c σ acts :=
  Late.runT_fst c σ γ acts

theorem C03S_excusedT_mono_step {σ σ' : State} {γ : GhostT} {a : Act} (h : step Cfg.cur σ a = some σ')
    {s : SId} {p : Int × TId} (hp : p ∈ (σ.src s).received) (he : ExcusedT σ γ s p) :
    ExcusedT σ' (γ.next Cfg.cur σ a) s p := by
  rw [ghostT_next_of_step γ h]; exact Late.excusedT_step h hp he

/-- **C03S (2), with faults, modulo the recorded findings (tight form)**: in a run with stream breaks and re-opens at
    any position, an acknowledgement sent at any earlier point (`σi`) covers, when judged at any later state (`σj`)
    with the ghost bookkeeping `γj` of that later state, only tasks that are confirmed or excused there. -/
theorem C03S_late_ack_safe_modulo_known (ns nt : Nat) (pre post : List Act)
    (henv : EnvOKT Cfg.cur (State.init ns nt) {} (pre ++ post)) :
    ∀ s, s < ns → ∀ v ∈ ((run Cfg.cur (State.init ns nt) pre).src s).acksSent,
      ∀ p ∈ ((run Cfg.cur (run Cfg.cur (State.init ns nt) pre) post).src s).received, p.1 < v →
        Confirmed (run Cfg.cur (run Cfg.cur (State.init ns nt) pre) post) s p.1 p.2 ∨
        ExcusedT (run Cfg.cur (run Cfg.cur (State.init ns nt) pre) post)
          (Late.runT Cfg.cur (State.init ns nt) {} (pre ++ post)).2 s p := by
  intro s _ v hv p hp hlt
  have hv' := (Late.run_acks_prefix Cfg.cur (run Cfg.cur (State.init ns nt) pre) post s).subset hv
  have hL := (Late.run_linvT cur_seedAcks (invT_init ns nt) (Late.linvT_init ns nt) (pre ++ post) henv).2
  rw [Late.runT_fst] at hL
  rw [← run_append] at hv' hp ⊢
  exact hL.safe s v hv' p hp hlt

/-- two targets; tasks 5 → target 0, 7 → target 1, both confirmed (acknowledgements 5, 5), then 9 → target 0,
    confirmed: the receiver sends 7 (covers task 5) -/
def lateWitnessPre : List Act :=
  [.openTgt 0, .startTgt 0, .replayDone 0, .openTgt 1, .startTgt 1, .replayDone 1, .openSrc 0,
   .recv 0 [(5, 0), (7, 1)] 9, .deliver 0 0, .deliver 0 1, .take 0, .emit 0, .take 1, .emit 1,
   .tack 0 2, .ackFwd 0 0, .ackFin 0, .rack 0,
   .tack 1 2, .ackFwd 1 0, .ackFin 1, .rack 0,
   .recv 0 [(9, 0)] 12, .deliver 0 0, .take 0, .emit 0, .tack 0 3, .ackFwd 0 0, .ackFin 0, .rack 0]

/-- while that acknowledgement is on its way: tasks 12 → target 0 and 13 → target 1 are received and forwarded, the
    keep-alive re-sends 7, target 0 confirms 12 (target 1 stays silent about 13), the receiver sends 7 again -/
def lateWitnessPost : List Act :=
  [.recv 0 [(12, 0), (13, 1)] 15, .deliver 0 1, .deliver 0 0, .take 0, .emit 0, .take 1, .emit 1, .tick,
   .tack 0 4, .ackFwd 0 0, .ackFin 0, .rack 0]

/-- the hypotheses accept the run -/
example : EnvOK Cfg.cur (State.init 1 2) (lateWitnessPre ++ lateWitnessPost) ∧
    NoFaults (lateWitnessPre ++ lateWitnessPost) := by decide +kernel

/-- acknowledgements really are sent in `pre` (the last one, 7, covers task 5) … -/
example :
    ((run Cfg.cur (State.init 1 2) lateWitnessPre).src 0).acksSent = [5, 5, 7] ∧
    ((run Cfg.cur (State.init 1 2) lateWitnessPre).src 0).received = [(5, 0), (7, 1), (9, 0)] := by decide +kernel

/-- … and in `post` further tasks are received, one of them is confirmed, one is not (it lies above every
    acknowledgement sent), and the history has grown -/
example :
    let σj := run Cfg.cur (run Cfg.cur (State.init 1 2) lateWitnessPre) lateWitnessPost
    (σj.src 0).acksSent = [5, 5, 7, 7, 7] ∧
    (σj.src 0).received = [(5, 0), (7, 1), (9, 0), (12, 0), (13, 1)] ∧
    (σj.src 0).lastHigh = 15 ∧
    Confirmed σj 0 5 0 ∧ Confirmed σj 0 12 0 ∧ ¬ Confirmed σj 0 13 1 := by decide +kernel

/-- with faults: task 7 → target 1 is never confirmed; the source stream breaks and re-opens, the new incarnation has
    forgotten target 1 (recorded finding `C04-source-restart-forgets-targets`) and sends 9 -/
def lateWitnessFaultPre : List Act :=
  [.openTgt 0, .startTgt 0, .replayDone 0, .openTgt 1, .startTgt 1, .replayDone 1, .openSrc 0,
   .recv 0 [(5, 0), (7, 1)] 9, .deliver 0 0, .deliver 0 1, .take 0, .emit 0, .take 1, .emit 1,
   .tack 0 2, .ackFwd 0 0, .ackFin 0, .rack 0,
   .breakSrc 0, .openSrc 0,
   .recv 0 [(9, 0)] 12, .deliver 0 0, .take 0, .emit 0, .tack 0 3, .ackFwd 0 0, .ackFin 0, .rack 0]

/-- the acknowledgement 9 sent in `pre` covers, judged after `post` (more tasks received, one more confirmed), the task
    (7, 1), which is still not confirmed there — and is excused there -/
example :
    let σi := run Cfg.cur (State.init 1 2) lateWitnessFaultPre
    let σj := run Cfg.cur σi lateWitnessPost
    let γj := (Late.runT Cfg.cur (State.init 1 2) {} (lateWitnessFaultPre ++ lateWitnessPost)).2
    EnvOKT Cfg.cur (State.init 1 2) {} (lateWitnessFaultPre ++ lateWitnessPost) ∧
    (σi.src 0).acksSent = [5, 9] ∧ (σj.src 0).acksSent = [5, 9, 9, 12] ∧
    (σj.src 0).received = [(5, 0), (7, 1), (9, 0), (12, 0), (13, 1)] ∧
    Confirmed σj 0 12 0 ∧ ¬ Confirmed σj 0 7 1 ∧ ExcusedT σj γj 0 (7, 1) := by decide +kernel

end S2S.Routing
