import S2S.Proofs.GossipMain
import S2S.Proofs.GossipRoute
/-!
# C09 — proxy instances converge on one owner per shard and route to it

Model: `S2S/Model/Gossip.lean` — any number of nodes and shards, a multiset network of register /
unregister announcements and full-state snapshots, one global clock that advances only by `tick`.
`RegisterShard` is the two actions `add` (Created := now) and `announce` (stamped with a LATER now);
`deliver it keep` delivers any in-flight item and keeps it when `keep` (duplication); delay and
re-ordering are which item the schedule delivers when.  Every theorem below quantifies over EVERY
action list (`acts`), i.e. every order, delay and duplication, node leaves at any point.

ASSUMPTIONS (explicit): one global clock read by every `time.Now()` (the code compares clocks of
different machines directly); `UnregisterShard` is atomic w.r.t. `RegisterShard` of the same shard on
the same node (that window is C08's subject); a snapshot fits `LocalState`'s 4096-byte limit.

(a) ownership: `C09_holder_not_older_than_any_claim_that_reached_it` (PROVED, all schedules): a node
    that still holds `s` registered it no earlier than the STAMP of every register announcement of `s`
    that was delivered to it, hence no earlier than that claim's Created: only a newest claimant can
    remain (`C09_only_newest_claimant_remains`).  The "exactly one owner" form `C09_exactly_one_owner`
    is FALSE of the current tree (`C09_refuted`, witness `C09_overlapping_claims_evict_both`: two
    claims within one broadcast latency evict EACH OTHER — the announcement carries the time of the
    broadcast, not `Created`; reproduced on the real code by the harness: known finding
    `C09-overlapping-claims-evict-both`).  PROVED under the decidable hypothesis `DisjointWindows`
    (`C09_exactly_one_owner_partial`) and, without it, for the repaired model that stamps the
    announcement with `Created` (`C09_exactly_one_owner_fixed`).  `C09_equal_stamps_keep_both` is the
    other excluded point (no unique newest claim: outside the property's wording).
(b) leave: `C09_leave_removes_until_merge` (PROVED).  "Instances that left own nothing" at full
    strength (`C09_departed_own_nothing`) is FALSE (`C09_stale_merge_resurrects_departed`: a snapshot of
    the departed node still in flight is merged after `NotifyLeave`; known finding
    `C09-stale-merge-resurrects-departed`); PROVED when no such snapshot is in flight
    (`C09_departed_own_nothing_partial`).
(c) routing clause: decision-logic theorems over `deliverMsg` / `deliverAck`, all inputs.
(d) `ReconcilePeerStreams`: desired sets and pruning as pure functions.
-/
namespace S2S.Gossip

/-- **C09 (a)**, every schedule: a holder's `Created` is at least the stamp of every register
    announcement of the shard that was ever delivered to it. -/
theorem C09_holder_not_older_than_any_claim_that_reached_it (cfg : Cfg) (acts : List Act)
    (m : NodeId) (s : ShardId) (c t : Time)
    (hold : Holds (run cfg State.init acts) m s c) (saw : SawClaim (run cfg State.init acts) m s t) :
    t ≤ c := by
  obtain ⟨src, hd⟩ := saw
  exact (inv_reach cfg acts).seen m s c src t hold hd

/-- **C09 (a)**, every schedule in which every register announcement that was emitted has been
    delivered at least once: a node still holding `s` registered it no earlier than the `Created` AND
    the stamp of every claim of another node that was announced to it — only a newest claimant remains. -/
theorem C09_only_newest_claimant_remains (cfg : Cfg) (acts : List Act) (m : NodeId) (s : ShardId) (c : Time)
    (hold : Holds (run cfg State.init acts) m s c)
    (hdel : RegistersDelivered (run cfg State.init acts)) :
    ∀ k ∈ (run cfg State.init acts).claims, k.shard = s → regItem k m ∈ (run cfg State.init acts).emitted →
      k.created ≤ c ∧ k.stamp ≤ c := by
  rintro k hk rfl hem
  have h1 : k.stamp ≤ c := (inv_reach cfg acts).seen m _ c k.node k.stamp hold (hdel _ hem rfl)
  exact ⟨Nat.le_trans ((inv_reach cfg acts).claimWf k hk).1 h1, h1⟩

/-- deliveries are deliveries of things that were really sent, and every register announcement in
    the histories is the announcement of a recorded claim of ANOTHER node, stamped inside its window -/
theorem C09_delivered_were_emitted (cfg : Cfg) (acts : List Act) :
    (∀ it ∈ (run cfg State.init acts).delivered, it ∈ (run cfg State.init acts).emitted) ∧
    (∀ src s t dst, Item.ann .register src s t dst ∈ (run cfg State.init acts).delivered →
      src ≠ dst ∧ ∃ c, Claim.mk src s c t ∈ (run cfg State.init acts).claims ∧ c ≤ t) := by
  refine ⟨fun it h => (inv_reach cfg acts).netEmitted it (Or.inr h), ?_⟩
  intro src s t dst h
  obtain ⟨h1, c, h2⟩ := (inv_reach cfg acts).regFrom src s t dst (Or.inr h)
  exact ⟨h1, c, h2, ((inv_reach cfg acts).claimWf _ h2).1⟩

/-- the ownership clause at full strength: in a settled situation with a unique newest claim, exactly
    the newest claimant holds the shard -/
def C09_exactly_one_owner (cfg : Cfg) : Prop :=
  ∀ (acts : List Act) (s : ShardId),
    Settled (run cfg State.init acts) s → DistinctCreated (run cfg State.init acts) s →
    ∃ k, IsNewest (run cfg State.init acts) s k ∧ OwnersAre (run cfg State.init acts) s k.node k.created

def join01 : List Act := [.snapshot 0 1, .snapshot 1 0]

/-- node 1 registers and announces shard 1 inside node 0's window [Created = 1, stamp = 4] -/
def witnessOverlap : List Act := join01 ++
  [.tick, .add 0 1, .tick, .add 1 1, .tick, .announce 1 1, .tick, .announce 0 1,
   .deliver (.ann .register 1 1 3 0) false, .deliver (.ann .register 0 1 4 1) false,
   .deliver (.ann .unregister 0 1 4 1) false, .deliver (.ann .unregister 1 1 4 0) false]

/-- the excluded point of the current tree: both registrations are evicted, the shard is unowned,
    both local streams are still registered. -/
theorem C09_overlapping_claims_evict_both :
    Settled (run Cfg.asIs State.init witnessOverlap) 1 ∧ DistinctCreated (run Cfg.asIs State.init witnessOverlap) 1 ∧
    ¬ DisjointWindows (run Cfg.asIs State.init witnessOverlap) 1 ∧
    (run Cfg.asIs State.init witnessOverlap).net = [] ∧
    (∀ k ∈ (run Cfg.asIs State.init witnessOverlap).claims,
      aget ((run Cfg.asIs State.init witnessOverlap).node k.node).locals 1 = none ∧
      (aget ((run Cfg.asIs State.init witnessOverlap).node k.node).streams 1).isSome) := by decide +kernel

theorem C09_refuted : ¬ C09_exactly_one_owner Cfg.asIs := by
  intro h
  obtain ⟨hs, hd, _, _, hnone⟩ := C09_overlapping_claims_evict_both
  obtain ⟨k, ⟨hk, _, _⟩, hown⟩ := h witnessOverlap 1 hs hd
  have h1 := hown k.node
  rw [if_pos rfl, (hnone k hk).1] at h1
  cases h1

/-- **C09 (a), partial**: with pairwise disjoint claim windows exactly the newest claimant remains. -/
theorem C09_exactly_one_owner_partial (cfg : Cfg) (acts : List Act) (s : ShardId)
    (hset : Settled (run cfg State.init acts) s) (hdis : DisjointWindows (run cfg State.init acts) s) :
    ∃ k, IsNewest (run cfg State.init acts) s k ∧ OwnersAre (run cfg State.init acts) s k.node k.created :=
  exactly_one_of_inv (inv_reach cfg acts) hset hdis

/-- **C09 (a), repaired model**: announcing with `Created` makes the full statement true. -/
theorem C09_exactly_one_owner_fixed : C09_exactly_one_owner Cfg.fixed := by
  intro acts s hset hdist
  apply exactly_one_of_inv (inv_reach Cfg.fixed acts) hset
  intro k hk k' hk' hs hs' hne
  rw [fixed_stamp_eq_created acts k hk, fixed_stamp_eq_created acts k' hk']
  exact Nat.lt_or_gt_of_ne (hdist k hk k' hk' hs hs' hne)

/-- all four clock reads return the same value (no tick in between) -/
def witnessEqual : List Act := join01 ++
  [.tick, .add 0 1, .add 1 1, .announce 0 1, .announce 1 1,
   .deliver (.ann .register 0 1 1 1) false, .deliver (.ann .register 1 1 1 0) false]

/-- the other excluded point: equal stamps evict nobody (`Before` is strict); there is no unique
    newest claim, so the property's wording does not cover it. -/
theorem C09_equal_stamps_keep_both :
    Settled (run Cfg.asIs State.init witnessEqual) 1 ∧ ¬ DistinctCreated (run Cfg.asIs State.init witnessEqual) 1 ∧
    Holds (run Cfg.asIs State.init witnessEqual) 0 1 1 ∧ Holds (run Cfg.asIs State.init witnessEqual) 1 1 1 := by
  unfold Holds; decide +kernel

/-- node 0 registers, then node 1 after node 0's announcement: disjoint windows -/
def witnessSequential : List Act := join01 ++
  [.tick, .add 0 1, .tick, .announce 0 1, .tick, .add 1 1, .tick, .announce 1 1,
   .deliver (.ann .register 1 1 4 0) true, .deliver (.ann .register 0 1 2 1) false,
   .deliver (.ann .register 1 1 4 0) false, .deliver (.ann .unregister 0 1 4 1) false]

/-- non-vacuity: the hypotheses of the partial theorem are met by a run with two claims, a duplicated
    and a delayed delivery, and exactly the newest claimant (node 1, Created 3) remains. -/
example : Settled (run Cfg.asIs State.init witnessSequential) 1 ∧ DisjointWindows (run Cfg.asIs State.init witnessSequential) 1 ∧
    EmittedDelivered (run Cfg.asIs State.init witnessSequential) ∧ RegistersDelivered (run Cfg.asIs State.init witnessSequential) ∧
    Holds (run Cfg.asIs State.init witnessSequential) 1 1 3 ∧ aget ((run Cfg.asIs State.init witnessSequential).node 0).locals 1 = none := by
  unfold Holds; decide +kernel

/-- the overlap run on the repaired model: node 1 (the newest claim) keeps the shard -/
example : Settled (run Cfg.fixed State.init (join01 ++
    [.tick, .add 0 1, .tick, .add 1 1, .tick, .announce 1 1, .tick, .announce 0 1,
     .deliver (.ann .register 1 1 2 0) false, .deliver (.ann .register 0 1 1 1) false])) 1 ∧
    Holds (run Cfg.fixed State.init (join01 ++
    [.tick, .add 0 1, .tick, .add 1 1, .tick, .announce 1 1, .tick, .announce 0 1,
     .deliver (.ann .register 1 1 2 0) false, .deliver (.ann .register 0 1 1 1) false])) 1 1 2 := by
  unfold Holds; decide +kernel

/-- **C09 (b)**: after `m` has processed the leave of `n`, `n` is absent from `m`'s `remoteNodeStates`
    and stays absent along every schedule that merges no snapshot of `n` into `m`. -/
theorem C09_leave_removes_until_merge (cfg : Cfg) (σ : State) (m n : NodeId) (acts : List Act)
    (hno : NoMergeFrom n m acts) :
    aget ((run cfg (step cfg σ (.leave m n)) acts).node m).remote n = none :=
  absent_until_merge cfg acts (leave_removes cfg σ m n) hno

/-- "instances that left own nothing" at full strength: whatever happened before, once `m` has
    processed the leave of `n` and `n` itself does nothing any more, `m` never lists `n` again -/
def C09_departed_own_nothing (cfg : Cfg) : Prop :=
  ∀ (pre post : List Act) (n m : NodeId), n ≠ m → Silent n post →
    aget ((run cfg State.init (pre ++ .leave m n :: post)).node m).remote n = none

/-- node 0 owns shard 1; its full state is in flight to node 1 when it leaves -/
def witnessStale : List Act :=
  [.tick, .add 0 1, .tick, .announce 0 1, .snapSend 0 1, .leave 1 0, .deliver (.snap 0 [(1, 1)] 1) false]

theorem C09_stale_merge_resurrects_departed :
    aget ((run Cfg.asIs State.init witnessStale).node 1).remote 0 = some [(1, 1)] ∧
    shardOwners ((run Cfg.asIs State.init witnessStale).node 1) 1 1 = [0] := by decide +kernel

theorem C09_departed_refuted : ¬ C09_departed_own_nothing Cfg.asIs := fun h =>
  nomatch C09_stale_merge_resurrects_departed.1.symm.trans
    (h [.tick, .add 0 1, .tick, .announce 0 1, .snapSend 0 1] [.deliver (.snap 0 [(1, 1)] 1) false] 0 1 (by decide) (by decide +kernel))

/-- **C09 (b), partial**: if no snapshot of the departed node is still in flight towards `m` when `m`
    processes the leave (the property's "each … reaches every other instance": nothing of `n` is
    delayed past its departure), `n` never reappears. -/
theorem C09_departed_own_nothing_partial (cfg : Cfg) (pre post : List Act) (n m : NodeId)
    (hnet : NoSnapInFlight (run cfg State.init pre) n m) (hsil : Silent n post) :
    aget ((run cfg State.init (pre ++ .leave m n :: post)).node m).remote n = none := by
  rw [run_append, run_cons]
  apply departed_stays_absent cfg post (leave_removes cfg _ m n) _ hsil
  exact step_no_snap cfg hnet rfl

/-- non-vacuity of (b): node 0 owned shard 1, node 1 had merged its state (so it listed node 0 as the owner),
    the snapshot in flight arrived BEFORE the leave; afterwards node 1 never lists node 0 again. -/
example : NoSnapInFlight (run Cfg.asIs State.init [.tick, .add 0 1, .tick, .announce 0 1, .snapSend 0 1, .deliver (.snap 0 [(1, 1)] 1) false]) 0 1 ∧
    shardOwners ((run Cfg.asIs State.init [.tick, .add 0 1, .tick, .announce 0 1, .snapSend 0 1, .deliver (.snap 0 [(1, 1)] 1) false]).node 1) 1 1 = [0] ∧
    Silent 0 [.tick, .add 1 1, .snapshot 1 0] := by decide +kernel

/-- the owner lookup never names the node itself -/
theorem C09_owner_is_another_node (x : Node) (self : NodeId) (s : ShardId) : self ∉ shardOwners x self s :=
  fun h => (mem_shardOwners h).1 rfl

/-- **C09 (c)** messages: the result is `true` iff the message was handed to exactly one of the local
    stream / the remote owner; it is never handed to both; `false` means nobody got it. -/
theorem C09_msg_true_iff_exactly_one (i : RouteIn) :
    ((deliverMsg i).result = true ↔ ((deliverMsg i).toLocal ≠ (deliverMsg i).toRemote)) ∧
    ¬ ((deliverMsg i).toLocal = true ∧ (deliverMsg i).toRemote = true) ∧
    ((deliverMsg i).result = false → (deliverMsg i).toLocal = false ∧ (deliverMsg i).toRemote = false) ∧
    (deliverMsg i).panicked = false := by
  rcases deliverMsg_cases i with h | h | h <;> rw [h] <;> decide

/-- **C09 (c)** messages: local stream first. -/
theorem C09_msg_local_first (i : RouteIn) (h : i.localChan = some .sent) : deliverMsg i = .atLocal := by
  simp [deliverMsg, localAttempt, h]

/-- **C09 (c)** messages: otherwise the known remote owner. -/
theorem C09_msg_else_remote_owner (i : RouteIn) (hl : i.localChan = none ∨ (i.localChan ≠ some .sent ∧ i.isShutdown = false))
    (hm : i.memberlist = true) (hg : i.mgrPresent = true) (ho : i.ownerKnown = true) (hs : i.ownerIsSelf = false)
    (ha : i.addrKnown = true) : deliverMsg i = if i.fwdOk then .atRemote else .undelivered := by
  simp [deliverMsg, localAttempt_none hl, hm, hg, ho, hs, ha]

/-- **C09 (c)** messages: neither a local stream nor a known remote owner ⇒ reported undelivered. -/
theorem C09_msg_neither_is_reported (i : RouteIn) (hl : i.localChan = none)
    (ho : i.memberlist = false ∨ i.ownerKnown = false ∨ i.ownerIsSelf = true ∨ i.addrKnown = false) :
    deliverMsg i = .undelivered := by
  rcases ho with h | h | h | h <;> simp [deliverMsg, localAttempt_none (.inl hl), h]

/-- **C09 (c)** acknowledgements: same statement (in routing mode the intra-proxy manager exists). -/
theorem C09_ack_true_iff_exactly_one (i : RouteIn) (hmgr : i.memberlist = true → i.mgrPresent = true) :
    ((deliverAck i).result = true ↔ ((deliverAck i).toLocal ≠ (deliverAck i).toRemote)) ∧
    ¬ ((deliverAck i).toLocal = true ∧ (deliverAck i).toRemote = true) ∧
    ((deliverAck i).result = false → (deliverAck i).toLocal = false ∧ (deliverAck i).toRemote = false) ∧
    (deliverAck i).panicked = false := by
  rcases deliverAck_cases i with h | h | h | ⟨hm, hg⟩
  · rw [h]; decide
  · rw [h]; decide
  · rw [h]; decide
  · rw [hmgr hm] at hg; cases hg

theorem C09_ack_local_first (i : RouteIn) (h : i.localChan = some .sent) : deliverAck i = .atLocal := by
  simp [deliverAck, localAttempt, h]

theorem C09_ack_else_remote_owner (i : RouteIn) (hl : i.localChan = none ∨ (i.localChan ≠ some .sent ∧ i.isShutdown = false))
    (hf : i.allowForward = true) (hm : i.memberlist = true) (hg : i.mgrPresent = true) (ho : i.ownerKnown = true)
    (hs : i.ownerIsSelf = false) (ha : i.addrKnown = true) :
    deliverAck i = if i.fwdOk then .atRemote else .undelivered := by
  simp [deliverAck, localAttempt_none hl, hf, hm, hg, ho, hs, ha]

theorem C09_ack_neither_is_reported (i : RouteIn) (hl : i.localChan = none)
    (ho : i.allowForward = false ∨ i.memberlist = false ∨ i.ownerKnown = false ∨ i.ownerIsSelf = true ∨ i.addrKnown = false) :
    deliverAck i = .undelivered := by
  rcases ho with h | h | h | h | h <;> simp [deliverAck, localAttempt_none (.inl hl), h]

/-- desired receivers are exactly the cross-cluster (local target, remote source) pairs -/
theorem C09_desired_receivers (locals : List CShard) (remote : List (NodeId × List CShard)) (k : PKey) :
    k ∈ desiredReceivers locals remote ↔
      k.target ∈ locals ∧ (∃ e ∈ remote, k.source ∈ e.2) ∧ k.target.cluster ≠ k.source.cluster := by
  unfold desiredReceivers
  simp only [List.mem_map]
  constructor
  · rintro ⟨p, hp, rfl⟩
    obtain ⟨h1, ⟨e, he, _, hr⟩, h3⟩ := mem_crossPairs.1 hp
    exact ⟨h1, ⟨e, he, hr⟩, h3⟩
  · rintro ⟨h1, ⟨e, he, hr⟩, h3⟩
    exact ⟨(e.1, k.target, k.source), mem_crossPairs.2 ⟨h1, ⟨e, he, rfl, hr⟩, h3⟩, rfl⟩

/-- desired senders are the inverse pairs -/
theorem C09_desired_senders_inverse (locals : List CShard) (remote : List (NodeId × List CShard)) :
    desiredSenders locals remote = (desiredReceivers locals remote).map PKey.swap := by
  simp [desiredSenders, desiredReceivers, List.map_map, Function.comp_def, PKey.swap]

/-- nothing outside the desired sets survives a reconcile -/
theorem C09_reconcile_prunes_everything_else (dR dS receivers senders : List PKey) :
    (∀ k ∈ (prune dR dS receivers senders).1, k ∈ receivers ∧ k ∈ dR) ∧
    (∀ k ∈ (prune dR dS receivers senders).2, k ∈ senders ∧ k ∈ dS) :=
  ⟨fun _ hk => have ⟨h1, h2, _⟩ := mem_prune.1.1 hk; ⟨h1, h2⟩, fun _ hk => have ⟨h1, h2, _⟩ := mem_prune.2.1 hk; ⟨h1, h2⟩⟩

end S2S.Gossip
