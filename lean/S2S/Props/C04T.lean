import S2S.Props.C04
import S2S.Proofs.RoutingTightLoose
/-!
# C04T — C04 modulo the recorded findings, TIGHT form

`C04_modulo_known_findings` (S2S/Props/C04.lean) excuses every task that was handed to an incarnation of its target
stream that has broken since: finding `C04-target-break-loses-inflight` is identified by the CATEGORY of the task only.
The statement here (`S2S/Spec/RoutingFaultsTight.lean`) identifies it by its MECHANISM: a lost task is excused only
once a later incarnation of the same target stream has TAKEN a message of the same source stream lying above it
(`passedOf`).  A lost task that is acknowledged upstream in any other way — for example without any later message of
that source stream on that target stream — is NOT excused, so such an acknowledgement would be a new defect.

Proved for every run (breaks and re-opens at any position) under the same environment hypothesis as the loose form.
-/
namespace S2S.Routing

/-- **C04 modulo the recorded findings, tight form.**  For every run from the initial state (stream breaks and
    re-opens at any position) whose `recv`s satisfy `RecvOK` and `RecvFresh` (`EnvOKT` = `EnvOKF`), every
    acknowledgement `v` the proxy sends upstream on a source stream `s` covers only tasks `(id, t)`, `id < v`, received
    so far on `s` that are

    * `Confirmed`: acknowledged by some incarnation of their target stream `t`; or
    * EXCUSED (b) — `C04-source-restart-forgets-targets`: the task was (also) received by an earlier incarnation of the
      source stream `s` (it is among the first `baseOf s` received tasks); or
    * EXCUSED (a) — `C04-target-break-loses-inflight`, by its mechanism: the task was handed to an incarnation of `t`
      that broke (`lostOf t`) AND, after that, an incarnation of `t` took (`Act.take`) a message of source `s` whose
      largest id / watermark (`msgHigh`) is greater than `id` (`passedOf t`).

    What is NOT excused (unlike in `C04_modulo_known_findings`): a task lost with a broken incarnation of `t` that no
    later incarnation of `t` has passed.  Every acknowledgement covering such a task must find it `Confirmed`. -/
theorem C04T_modulo_known_findings_tight (ns nt : Nat) (acts : List Act)
    (henv : EnvOKT Cfg.cur (State.init ns nt) {} acts) :
    AcksSafeTAlong Cfg.cur (State.init ns nt) {} acts :=
  acks_safe_tight ns nt acts henv

/-- the ghosts are related by `PassedSubLost γ` (`∀ t, passedOf t ⊆ lostOf t`); it holds initially … -/
theorem C04T_rel_init : PassedSubLost {} := passedSubLost_init

/-- … and is preserved by the ghost update of every action, in every state -/
theorem C04T_rel_next (c : Cfg) (σ : State) (γ : GhostT) (a : Act) (h : PassedSubLost γ) :
    PassedSubLost (γ.next c σ a) := passedSubLost_next h c σ a

/-- the `Ghost` part of the tight ghost is the loose ghost -/
theorem C04T_ghost_proj (c : Cfg) (σ : State) (γ : GhostT) (a : Act) : (γ.next c σ a).g = γ.g.next c σ a :=
  ghostT_next_g c σ γ a

/-- tight ⟹ loose, for every configuration, state, action list, and related ghosts -/
theorem C04T_tight_implies_loose (c : Cfg) (σ : State) (γ : GhostT) (acts : List Act)
    (hrel : PassedSubLost γ) (h : AcksSafeTAlong c σ γ acts) : AcksSafeFAlong c σ γ.g acts :=
  acksSafeT_F c σ γ acts hrel h

/-- the environment hypotheses coincide -/
theorem C04T_env_iff (c : Cfg) (σ : State) (γ : GhostT) (acts : List Act) :
    EnvOKT c σ γ acts ↔ EnvOKF c σ γ.g acts :=
  envOKT_iff_F c σ γ acts

/-- hence the loose theorem is a corollary of the tight one -/
theorem C04T_loose_corollary (ns nt : Nat) (acts : List Act)
    (henv : EnvOKF Cfg.cur (State.init ns nt) {} acts) :
    AcksSafeFAlong Cfg.cur (State.init ns nt) {} acts :=
  C04T_tight_implies_loose Cfg.cur (State.init ns nt) {} acts C04T_rel_init
    (C04T_modulo_known_findings_tight ns nt acts ((C04T_env_iff Cfg.cur (State.init ns nt) {} acts).2 henv))

/-- final state and tight ghost of a run -/
def runT (c : Cfg) : State → GhostT → List Act → State × GhostT
  | σ, γ, [] => (σ, γ)
  | σ, γ, a :: rest => runT c ((step c σ a).getD σ) (γ.next c σ a) rest

/-- (1) the recorded witness of finding (a) satisfies the environment hypothesis, hence the tight statement, and
    violates the plain one; its last action sends the acknowledgement 12, which covers the received task `(10, 0)`;
    that task is not confirmed, is not excused by (b), and IS in `passedOf 0` at that point: the tight excuse (a) is
    really used -/
example : EnvOKT Cfg.cur (State.init 1 1) {} witnessTargetBreak ∧
    AcksSafeTAlong Cfg.cur (State.init 1 1) {} witnessTargetBreak ∧
    ¬ AcksSafeAlong Cfg.cur (State.init 1 1) witnessTargetBreak :=
  have h : EnvOKT Cfg.cur (State.init 1 1) {} witnessTargetBreak := by decide +kernel
  ⟨h, C04T_modulo_known_findings_tight 1 1 _ h, C04_refuted_target_break.2⟩

example :
    (let r := runT Cfg.cur (State.init 1 1) {} witnessTargetBreak
     (r.1.src 0).acksSent = [12] ∧ (r.1.src 0).received = [(10, 0)] ∧
     ¬ Confirmed r.1 0 10 0 ∧
     (10, 0) ∉ (r.1.src 0).received.take (r.2.g.baseOf 0) ∧
     (0, 10) ∈ r.2.passedOf 0 ∧ ExcusedT r.1 r.2 0 (10, 0)) := by decide +kernel

/-- before the new incarnation takes the watermark 12 (prefix of the witness up to the second `recv 0 [] 12`, i.e.
    it has only taken the replayed watermark 10, which does not lie above task 10), the lost task is NOT yet passed -/
example :
    (let r := runT Cfg.cur (State.init 1 1) {} (witnessTargetBreak.take 21)
     (0, 10) ∈ r.2.g.lostOf 0 ∧ (0, 10) ∉ r.2.passedOf 0 ∧ (r.1.src 0).acksSent = []) := by decide +kernel

/-- (2) a faulty run in which the tight excuse is really narrower: task 10 is delivered, confirmed by the target
    cluster and acknowledged upstream (12); then the target stream breaks and re-opens, and the replayed watermark is
    queued but not taken.  At the end task 10 is in `lostOf 0` (loosely excused) but NOT in `passedOf 0` (not tightly
    excused); every acknowledgement sent covers only confirmed tasks. -/
def witnessLostNotPassed : List Act :=
  [.openTgt 0, .startTgt 0, .replayDone 0, .openSrc 0,
   .recv 0 [(10, 0)] 12, .deliver 0 0, .take 0, .emit 0,
   .recv 0 [] 12, .bcastStep 0 0, .take 0, .emit 0,
   .tack 0 3, .ackFwd 0 0, .ackFin 0, .rack 0,
   .breakTgt 0, .openTgt 0, .startTgt 0, .replayStep 0 0, .replayDone 0]

example :
    ¬ NoFaults witnessLostNotPassed ∧
    EnvOKT Cfg.cur (State.init 1 1) {} witnessLostNotPassed ∧
    AcksSafeTAlong Cfg.cur (State.init 1 1) {} witnessLostNotPassed ∧
    AcksSafeAlong Cfg.cur (State.init 1 1) witnessLostNotPassed ∧
    (let r := runT Cfg.cur (State.init 1 1) {} witnessLostNotPassed
     (r.1.src 0).acksSent = [12] ∧ (r.1.src 0).received = [(10, 0)] ∧
     (0, 10) ∈ r.2.g.lostOf 0 ∧ (0, 10) ∉ r.2.passedOf 0 ∧
     Confirmed r.1 0 10 0 ∧ Excused r.1 r.2.g 0 (10, 0) ∧ ¬ ExcusedT r.1 r.2 0 (10, 0)) := by decide +kernel

/-- the tight statement is also directly checkable on the three recorded traces (independent of the proof), and the
    ghost relation holds at their ends -/
example : AcksSafeTAlong Cfg.cur (State.init 1 1) {} witnessTargetBreak ∧
    AcksSafeTAlong Cfg.cur (State.init 1 2) {} witnessSourceRestart ∧
    AcksSafeTAlong Cfg.cur (State.init 1 1) {} witnessStaleRing := by decide +kernel

end S2S.Routing
