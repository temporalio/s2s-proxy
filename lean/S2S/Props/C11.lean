import S2S.Proofs.ConnMap
/-!
# C11 — RPCs travel only over live mux sessions and fail over between them

Model: `S2S/Model/ConnMap.lean` — the manager's session table with `notifyChange` inside the table
lock on every add/remove, `MultiClientConn.OnConnectionListUpdate/UpdateState` (nil map for the empty
table, else a copy), the resolver state derived from the map, and the map dialer.  The theorems
`C11_sync` … `C11_can_make_calls` are about the repository's code and hold for **every** sequence of
additions, deaths, removals and cancellation (same slot re-used, rapid add/remove, the empty set).

The call-level clauses (fail-over, unavailable, resume) additionally need gRPC's balancer.  It is
**modelled, not verified**: `Balancer` states the assumption "a ready endpoint of the current resolver
state is picked iff one exists" as an explicit hypothesis structure, and the theorems that use it are
named `…_partial`.  What they do establish is that the repository's part (table, map, resolver state,
dialer) gives the balancer exactly the live registered sessions to choose from.
-/
namespace S2S.ConnMap

/-- after every applied update (in fact in every reachable state): the client connection's map is
    exactly the table — same keys, same session objects — the resolver's endpoints are exactly the
    table's keys, and the map is nil iff the table is empty -/
theorem C11_sync (n : Nat) (acts : List Act) :
    let σ := run (St.init n) acts
    σ.connMap.getD [] = σ.muxes.map (fun s => (s.key, s.obj)) ∧ σ.endpoints = σ.keys ∧
    (σ.connMap = none ↔ σ.muxes = []) := by
  have hi := inv_reach n acts
  exact ⟨hi.map, hi.eps, hi.nil⟩

/-- keys are never reused: the table's keys are pairwise distinct (strictly increasing), so a key
    identifies one session object for ever -/
theorem C11_keys_distinct (n : Nat) (acts : List Act) :
    (run (St.init n) acts).muxes.Pairwise (fun a b => a.key < b.key) ∧ (run (St.init n) acts).keys.Nodup := by
  have hk := (inv_reach n acts).keys.2
  exact ⟨List.pairwise_map.1 hk, hk.imp Nat.ne_of_lt⟩

/-- the dialer resolves exactly the registered keys: it opens a stream on object `o` for address `k`
    iff `o` is the live session currently registered under `k` — never a stale or foreign session -/
theorem C11_dialer_exact (n : Nat) (acts : List Act) (k o : Nat) :
    dial (run (St.init n) acts) k = .stream o ↔
      ∃ s ∈ (run (St.init n) acts).muxes, s.key = k ∧ s.obj = o ∧ s.alive = true :=
  dial_stream_iff (inv_reach n acts) k o

/-- an address that is not a registered key is refused with an error -/
theorem C11_dialer_unknown_key (n : Nat) (acts : List Act) (k : Nat) :
    dial (run (St.init n) acts) k = .noKey ↔ k ∉ (run (St.init n) acts).keys :=
  dial_noKey_iff (inv_reach n acts) k

/-- `CanMakeCalls()` ⇔ the lifetime is live and at least one session is registered -/
theorem C11_can_make_calls (n : Nat) (acts : List Act) :
    (run (St.init n) acts).canMakeCalls = true ↔
      (run (St.init n) acts).live = true ∧ (run (St.init n) acts).muxes ≠ [] := by
  have hi := inv_reach n acts
  simp only [St.canMakeCalls, Bool.and_eq_true, Bool.not_eq_true', hi.map, pairs, List.isEmpty_eq_false_iff,
    ne_eq, List.map_eq_nil_iff]

/-- a call is served only by a session that is registered and alive -/
theorem C11_served_only_by_registered_partial (B : Balancer) (n : Nat) (acts : List Act) (i o : Nat)
    (h : rpc B (run (St.init n) acts) i = .served o) :
    ∃ s ∈ (run (St.init n) acts).muxes, s.obj = o ∧ s.alive = true :=
  served_inv (inv_reach n acts) h

/-- fail-over: as long as some registered session is alive, a call (on a live, resolved client
    connection) is served — by one of the registered live sessions, whichever died before -/
theorem C11_failover_partial (B : Balancer) (n : Nat) (acts : List Act) (i : Nat)
    (hl : (run (St.init n) acts).live = true) (ha : (run (St.init n) acts).applied = true)
    (hs : ∃ s ∈ (run (St.init n) acts).muxes, s.alive = true) :
    ∃ o, rpc B (run (St.init n) acts) i = .served o :=
  failover_inv B (inv_reach n acts) i hl ha hs

/-- no live session registered ⇒ the call reports unavailability (it does not hang, it is not served) -/
theorem C11_unavailable_partial (B : Balancer) (n : Nat) (acts : List Act) (i : Nat)
    (hl : (run (St.init n) acts).live = true) (ha : (run (St.init n) acts).applied = true)
    (hs : ∀ s ∈ (run (St.init n) acts).muxes, s.alive = false) :
    rpc B (run (St.init n) acts) i = .unavailable :=
  unavailable_inv B (inv_reach n acts) i hl ha hs

/-- resume: once a new session has been added (pool not full, lifetime live), calls are served again -/
theorem C11_resume_partial (B : Balancer) (n : Nat) (acts : List Act) (i : Nat)
    (hl : (run (St.init n) acts).live = true) (hroom : (run (St.init n) acts).muxes.length < n) :
    ∃ o, rpc B (run (St.init n) (acts ++ [.add])) i = .served o := by
  obtain ⟨σ', h1, h2, h3, h4⟩ := add_spec (run (St.init n) acts) hl (by rw [run_cap]; exact hroom)
  have hi := inv_reach n (acts ++ [.add])
  rw [run_snoc, h1] at hi ⊢
  exact failover_inv B hi i h2 h3 h4

/-- two sessions; the first dies and is unregistered; rapid add/remove; then the empty set -/
def nvHistory : List Act := [.add, .add, .kill 0, .unregister 0, .add, .kill 2, .unregister 2]

example : (run (St.init 2) nvHistory).keys = [1] ∧ (run (St.init 2) nvHistory).connMap = some [(1, 1)] ∧
    rpc firstBalancer (run (St.init 2) nvHistory) 0 = .served 1 ∧
    rpc firstBalancer (run (St.init 2) (nvHistory ++ [.kill 1])) 0 = .unavailable ∧
    (run (St.init 2) (nvHistory ++ [.kill 1, .unregister 1])).connMap = none ∧
    (run (St.init 2) (nvHistory ++ [.kill 1, .unregister 1])).canMakeCalls = false ∧
    rpc firstBalancer (run (St.init 2) (nvHistory ++ [.kill 1, .unregister 1, .add])) 0 = .served 3 := by decide +kernel

end S2S.ConnMap
