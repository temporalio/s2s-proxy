import S2S.Model.TranslateVal
/-! The fixture of the value-level examples (C12V, C13V, C14V, C16V): a small type graph with its tables and a few messages.
    Names: 10 = a, 11 = b, 12 = c, 0 = the empty name, 13 = an unmapped name. -/
namespace S2S.TranslateVal
open S2S.Translate
namespace Ex
/-- Go field names: 1 Namespace, 2 HistoryBatches, 3 Identity, 4 EventType, 5 Links, 6 Attributes, 7 ParentWorkflowNamespace,
    8 Variant, 9 WorkflowEvent, 14 Name, 15 Events, 16 IndexedFields, 17 SearchAttributes -/
def g : Graph :=
  { types := [
      ⟨0, [⟨1, true, true, false, false, []⟩, ⟨2, false, false, true, false, []⟩, ⟨3, false, true, false, false, []⟩]⟩,  -- a response
      ⟨1, [⟨4, false, false, false, false, []⟩, ⟨5, false, false, false, false, [3]⟩, ⟨6, false, false, false, false, [2]⟩]⟩,  -- HistoryEvent
      ⟨2, [⟨7, true, true, false, false, []⟩, ⟨17, false, false, false, true, [6]⟩]⟩,   -- started attributes
      ⟨3, [⟨8, false, false, false, false, [4]⟩]⟩,                                       -- Link
      ⟨4, [⟨9, false, false, false, false, [5]⟩]⟩,                                       -- Link_WorkflowEvent_ (wrapper)
      ⟨5, [⟨1, true, true, false, false, []⟩]⟩,                                          -- Link_WorkflowEvent
      ⟨6, [⟨16, false, false, false, false, []⟩]⟩,                                       -- SearchAttributes
      ⟨7, [⟨3, false, true, false, false, []⟩]⟩]                                         -- signaled attributes (skippable)
    eventType := 1, historyType := 20, namespaceInfo := 21, nameField := 14, attributesField := 6, linksField := 5 }
def tb : Tables := { ns := [1, 7], blob := [2], sa := [17], skipAttr := [7], reviewedNonEventBlob := [] }
def X : Ext Nat :=
  { empty := 0, evAttr := fun t => some t, eventTypeField := 4, variantField := 8, workflowEventField := 9, namespaceField := 1,
    eventsField := 15, indexedFieldsField := 16, lwerType := 30 }
def chain : List (Nat × Nat) := [(10, 11), (11, 12)]
/-- event of attributes type `ty` (its EventType token is the attributes type) -/
def ev (ty : Nat) (attrs : Val Nat) : Val Nat := .msg 1 [.tok ty, .nil .slice, attrs]
def started (ns : Nat) (sa : Val Nat) : Val Nat := ev 2 (.msg 2 [.str ns, sa])
def signaled (who : Nat) : Val Nat := ev 7 (.msg 7 [.str who])
def msg1 : Val Nat :=
  .msg 0 [.str 10, .list [.blobEv false [started 10 (.nil .ptr), started 11 (.nil .ptr)], .blobEv false [signaled 10, signaled 11]], .str 10]
/-- a skippable event with one link naming namespace `ns` -/
def linked (ns : Nat) : Val Nat :=
  .msg 1 [.tok 7, .list [.msg 3 [.msg 4 [.msg 5 [.str ns]]]], .msg 7 [.str 10]]
/-- a message whose started event carries three search attributes -/
def saMsg : Val Nat :=
  .msg 0 [.str 10, .list [.blobEv false [started 10 (.msg 6 [.map [.kv 10 (.payload 1), .kv 11 (.payload 2), .kv 13 (.payload 3)]])]], .str 10]
end Ex
end S2S.TranslateVal
