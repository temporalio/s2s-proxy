import S2S.Proofs.TranslateValPath
import S2S.Props.C12
import S2S.Props.TranslateValEx
/-!
# C12 at the level of VALUES — the path model and the value model agree

`S2S.Translate.translates g tb p` (the path model of C12: "the visitor translates a namespace name sitting at the end of the
structural path `p`") is connected to the value-level model of the visitor (`translateNs`, validated against the real code
by the `valns` ops):

* `C12_leaf_values_translated`: for EVERY graph, tables, mapping and value tree, every path `p` that is realised in the
  tree (`leafAt … = some s`: along `p`, with a positional choice of slice element / map entry / blob / event at every
  step, the tree has structs of the types the path names, and a Go string `s` at the leaf field), if the path model says
  `translates g tb p = true`, then the string at the same position of the translated tree is `translateName m s`.
  Side conditions (all decidable, all true for the current tree's tables / for decoded real histories):
  `pathOK` — the path model's reading of the tree along the path is right: a `History` is left through `Events`, and an
  event skipped by the shortcut on the VALUES (event-type field, link namespaces) is one where the path model blocks on
  the TYPE of the attributes entered (i.e. event type consistent with its attributes; the path does not end in an empty
  link namespace of a skippable event — the code never offers that empty name to the matcher);
  the root is not skipped as a whole (`ListWorkflowExecutionsResponse`: the path model does not know that shortcut);
  `Name` is not a namespace field name (else NamespaceInfo.Name would go through the matcher twice) and no field name is
  in both `namespaceFieldNames` and `dataBlobFieldNames` (the code tests the blob table first; the path model does not).
* `C12_every_realised_leaf_translated`: with C12's coverage theorem, for the regenerated graph of the current tree every
  well-formed path to a namespace-name leaf that is realised in a message holds the translated name afterwards.
-/
namespace S2S.TranslateVal
open S2S.Translate S2S.NameMap

variable {α : Type} [DecidableEq α]

theorem C12_leaf_values_translated (g : Graph) (tb : Tables) (X : Ext α) (m : List (α × α))
    (hN : tb.ns.contains g.nameField = false) (hdis : tablesDisjoint tb = true)
    (v : Val α) (p : Path) (picks : List Pick) (s : α)
    (hroot : rootSkippable g tb X v = false)
    (hreal : leafAt g p.leafTy p.leafIdx v p.steps picks = some s)
    (hok : pathOK g tb X v p.steps picks false = true)
    (htr : translates g tb p = true) :
    leafAt g p.leafTy p.leafIdx (translateNs g tb X m v).1 p.steps picks = some (translateName m s) := by
  unfold translates at htr
  simp only [Bool.and_eq_true] at htr
  have := leaf_translated (mt := look m) (nameOnce_of hN) hdis p.leafTy p.leafIdx htr.2 p.steps v picks
    .root false s ((skips_root v).trans hroot) hreal htr.1 hok
  rwa [app_look, look_fst, ← translateNs_eq_step] at this

/-- the side conditions on the tables hold for the current tree -/
example : tablesDisjoint S2S.Gen.TG.tables = true := by decide
example : S2S.Gen.TG.tables.ns.contains S2S.Gen.TG.graph.nameField = false := by decide

theorem C12_every_realised_leaf_translated (X : Ext α) (m : List (α × α)) (root : Nat) (p : Path)
    (hw : WellFormed S2S.Gen.TG.graph S2S.Gen.TG.tables root p)
    (v : Val α) (picks : List Pick) (s : α)
    (hroot : rootSkippable S2S.Gen.TG.graph S2S.Gen.TG.tables X v = false)
    (hreal : leafAt S2S.Gen.TG.graph p.leafTy p.leafIdx v p.steps picks = some s)
    (hok : pathOK S2S.Gen.TG.graph S2S.Gen.TG.tables X v p.steps picks false = true) :
    leafAt S2S.Gen.TG.graph p.leafTy p.leafIdx (translateNs S2S.Gen.TG.graph S2S.Gen.TG.tables X m v).1 p.steps picks
      = some (translateName m s) :=
  C12_leaf_values_translated S2S.Gen.TG.graph S2S.Gen.TG.tables X m (by decide) (by decide) v p picks s hroot hreal hok
    (C12_every_path_translated root p hw)

/-! non-vacuity, on the fixture of `Props/TranslateValEx.lean`: the namespace of the SECOND event of the first blob (path: blob field 1 of the
    root, `Attributes` of the event, leaf field 0 of the attributes) -/
def exPath : Path := ⟨[.blob 0 1, .field 1 2 2], 2, 0⟩
def exPicks : List Pick := [⟨0, 1⟩, ⟨0, 0⟩]
example : leafAt Ex.g 2 0 Ex.msg1 exPath.steps exPicks = some 11 := by rfl
example : translates Ex.g Ex.tb exPath = true := by decide +kernel
example : pathOK Ex.g Ex.tb Ex.X Ex.msg1 exPath.steps exPicks false = true := by rfl
example : leafAt Ex.g 2 0 (translateNs Ex.g Ex.tb Ex.X Ex.chain Ex.msg1).1 exPath.steps exPicks = some 12 := by rfl
/-- `pathOK` is not vacuous either: an empty link namespace in a skippable event is a leaf the path model calls translated
    while the code skips the event; `pathOK` is false there (and the name, being empty, stays empty) -/
def linkPath : Path := ⟨[.blob 0 1, .field 1 1 3, .field 3 0 4, .field 4 0 5], 5, 0⟩
def linkPicks : List Pick := [⟨0, 0⟩, ⟨0, 0⟩, ⟨0, 0⟩, ⟨0, 0⟩]
example : translates Ex.g Ex.tb linkPath = true := by decide +kernel
example : pathOK Ex.g Ex.tb Ex.X (.msg 0 [.str 13, .list [.blobEv false [Ex.linked 0]], .str 0]) linkPath.steps linkPicks false = false := by rfl
example : pathOK Ex.g Ex.tb Ex.X (.msg 0 [.str 13, .list [.blobEv false [Ex.linked 10]], .str 0]) linkPath.steps linkPicks false = true := by rfl

end S2S.TranslateVal
