import S2S.Proofs.RoutingC03PhaseB
/-!
# C03 — acknowledgements to a source are monotone, bounded and eventually complete

Safety (`MonoBoundedAlong`): at every step of every fault-free run, an acknowledgement sent on a
source stream is `≥` every acknowledgement sent before on that stream and `≤` the last exclusive
high watermark received from that source.

Liveness, stated without temporal logic as "two fair rounds suffice" (`fairRound`, in
`Spec/Routing.lean`: the source re-sends its final watermark `H`, every queue drains, every target
acknowledges everything it has received, every queue drains): from **every** reachable fault-free
state — whatever is still queued, however full the slow targets' queues are, whichever targets
never got a task from this source — after two rounds the last acknowledgement the source has
received equals `H`.  What this does not cover: real-time ticker behaviour and fair schedules
that do not contain two such rounds.
-/
namespace S2S.Routing

theorem C03_acks_monotone_bounded (ns nt : Nat) (acts : List Act)
    (henv : EnvOK Cfg.cur (State.init ns nt) acts) (hnf : NoFaults acts) :
    MonoBoundedAlong Cfg.cur (State.init ns nt) acts :=
  mono_bounded_of_inv (Inv.init ns nt) henv hnf

theorem C03_eventually_complete (ns nt : Nat) (acts : List Act)
    (henv : EnvOK Cfg.cur (State.init ns nt) acts) (hnf : NoFaults acts)
    (s : SId) (H : Int) (hnt : 0 < nt)
    (hact : ((run Cfg.cur (State.init ns nt) acts).src s).active = true)
    (hst : ∀ t, t < nt → ((run Cfg.cur (State.init ns nt) acts).tgt t).started = true)
    (hH : RecvOK nt ((run Cfg.cur (State.init ns nt) acts).src s) [] H) :
    ∃ fuel, ((fairRound Cfg.cur fuel s H (fairRound Cfg.cur fuel s H (run Cfg.cur (State.init ns nt) acts))).src s).acksSent.getLast? = some H :=
  have ⟨F, hF⟩ := eventually_complete (by decide) ⟨⟨run_Inv2 (Inv2.init ns nt) henv hnf, hst⟩, hact, hH.2.2.2⟩ hnt hH.2.2.1
  ⟨F, hF F (Nat.le_refl F)⟩

/-- non-vacuity / illustration: a slow target with a message still in hand, a silent target that never
    got a task, a batch still pending — two rounds bring the source's ack to its final watermark 30. -/
example :
    let acts : List Act := [.openTgt 0, .startTgt 0, .replayDone 0, .openTgt 1, .startTgt 1, .replayDone 1, .openSrc 0,
      .recv 0 [(5, 0), (7, 0)] 9, .deliver 0 0, .take 0, .recv 0 [(9, 0)] 12]
    let σ := run Cfg.cur (State.init 1 2) acts
    EnvOK Cfg.cur (State.init 1 2) acts ∧ NoFaults acts ∧
    ((fairRound Cfg.cur 1000 0 30 (fairRound Cfg.cur 1000 0 30 σ)).src 0).acksSent.getLast? = some 30 := by
  decide +kernel

end S2S.Routing
