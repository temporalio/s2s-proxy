import S2S.Proofs.RoutingFaultBasic
/-! `InvF` along `recv`: the only step that uses the environment hypotheses `RecvOK` and `RecvFresh`. -/
namespace S2S.Routing

/-- `RecvFresh`: what is re-sent was received before, and counts as received by an earlier incarnation exactly when it
    did before; what is new lies at or above every announced watermark -/
theorem cur_recv {σ : State} {γ : Ghost} {s : SId} {tasks : List (Int × TId)} {high : Int} {t : TId} {id : Int}
    {x' : Source} (h : Cur (γ.upd σ (.recv s tasks high)) s t x' id)
    (hr : x'.received = (σ.src s).received ++ tasks) (ha : x'.active = (σ.src s).active)
    (hfresh : RecvFresh σ γ s tasks) : Cur γ s t (σ.src s) id ∨ ((id, t) ∈ tasks ∧ γ.maxHighOf s ≤ id) := by
  obtain ⟨h1, h2⟩ := h
  have hb : ebase (γ.upd σ (.recv s tasks high)) s x' = if (σ.src s).active then γ.baseOf s else x'.received.length := by
    unfold ebase; rw [ha]; rfl
  by_cases hin : (id, t) ∈ (σ.src s).received
  · refine Or.inl ⟨hin, fun hc => h2 ?_⟩
    rw [hb, hr]
    unfold ebase at hc
    split
    · rename_i hact; rw [if_pos hact] at hc; exact mem_take_append hc
    · rw [List.take_length]; exact List.mem_append_left _ hin
  · have h1 := (List.mem_append.1 (hr ▸ h1)).resolve_left hin
    exact Or.inr ⟨h1, (hfresh _ h1).resolve_left hin⟩

/-- `P`: what the batch appends to the pipeline, tasks in `[lastHigh, lastHigh')` (`hP`). A task needed after a `recv` was
    needed before, or is new (`hN`): then it is in `P` and at or above `M` — every value around is `≤ M`, so a value that
    was safe stays safe (`hsafe`), and what was queued stays in front of it -/
theorem PairF.of_recv {N N' : Int → Prop} {M M' : Int} {s : SId} {t : TId} {x : Source} {tg : Target}
    (h : PairF N M s t x tg) {x' : Source} {P : List (Int × Bool)}
    (hM : M ≤ M') (hle : x.lastHigh ≤ x'.lastHigh) (hhM : x'.lastHigh ≤ M') (hf : flat s t x' tg = flat s t x tg ++ P)
    (hN : ∀ id, N' id → N id ∨ (M ≤ id ∧ (id, true) ∈ P))
    (hPs : P.Pairwise (FlatRelN N')) (hP : ∀ y ∈ P, x.lastHigh ≤ y.1 ∧ y.1 < x'.lastHigh)
    (hlast : ∀ a, x.lastSentAck = some a → a ≤ M)
    (hseed : (∀ v, (t, v) ∈ x'.ackByTarget → (t, v) ∈ x.ackByTarget ∨ (SafeN N' s tg v ∧ v ≤ M')) ∧
      ∀ id, N' id → (aget x'.ackByTarget t).isSome = true)
    (hgl : ∀ i g, (i, some g) ∈ x.graveyard → g ≤ M)
    (ackChan : x'.ackChan = x.ackChan := by rfl) (lastSentAck : x'.lastSentAck = x.lastSentAck := by rfl)
    (graveyard : x'.graveyard = x.graveyard := by rfl) : PairF N' M' s t x' tg := by
  have hsafe : ∀ v, SafeN N s tg v → v ≤ M → SafeN N' s tg v := by
    intro v hv hvl id hr hlt
    rcases hN id hr with hr | ⟨hr, _⟩
    · exact hv id hr hlt
    · omega
  have hS : ∀ v, SafeN N s tg v ∧ v ≤ M → SafeN N' s tg v ∧ v ≤ M' := fun v hv => ⟨hsafe v hv.1 hv.2, by omega⟩
  refine ⟨fun id hr => ?_, ?_, fun y hy => ?_, fun p o hm id hr hlt => ?_, fun p o hm => Int.le_trans (h.ring_le p o hm) hM,
    fun todo d r e v hv => hS v (h.todo_safe todo d r e v hv), fun v hv => hS v (h.prev_safe v hv),
    ackChan ▸ fun v hv => hS v (h.chan_safe v hv), fun v hv => (hseed.1 v hv).elim (fun hv => hS v (h.abt_safe v hv)) id,
    lastSentAck ▸ fun a ha => hsafe a (h.last_safe a ha) (hlast a ha), hseed.2, fun id hr => ?_,
    graveyard ▸ fun i g hg id hr => ?_⟩
  · rw [hf]
    rcases hN id hr with hr | ⟨_, hr⟩
    · exact (h.cover id hr).imp_right (List.mem_append_left _)
    · exact Or.inr (List.mem_append_right _ hr)
  · rw [hf, List.pairwise_append]
    refine ⟨h.sorted.imp_of_mem fun {a b} ha _ hr hz hn => ?_, hPs, fun a ha b hb _ hn => ?_⟩
    · rcases hN _ hn with hn | ⟨hm, _⟩
      · exact hr hz hn
      · exact Int.le_trans (h.flat_le a ha) hm
    · rcases hN _ hn with hn | ⟨hm, _⟩
      · have := h.cur_lt _ hn
        have := (hP b hb).1
        omega
      · exact Int.le_trans (h.flat_le a ha) hm
  · rcases List.mem_append.1 (hf ▸ hy) with hy | hy
    · exact Int.le_trans (h.flat_le y hy) hM
    · have := (hP y hy).2; omega
  · rcases hN id hr with hr | ⟨hr, _⟩
    · exact h.ring_ok p o hm id hr hlt
    · have := h.ring_le p o hm; omega
  · rcases hN id hr with hr | ⟨_, hr⟩
    · have := h.cur_lt id hr; omega
    · exact (hP _ hr).2
  · rcases hN id hr with hr | ⟨hr, _⟩
    · exact h.grave_low i g hg id hr
    · have := hgl i g hg; omega

/-- the ghost maximum rises to at least `high`. A watermark batch needs nothing new. A task batch is new needed tasks
    in `[lastHigh, high)`, in increasing order behind everything queued (`RecvOK`); none of them was needed before
    (`cur_lt`) or lies below an announced watermark (`RecvFresh`); `seed` enters the first id of a sub-batch for a
    target without an entry, which is safe as no needed task lies below it (`seed_safe`) -/
theorem step_invF_recv {c : Cfg} (hc : c.seedAcks = true) {σ σ' : State} {γ : Ghost} (hI : InvF σ γ) {s : SId}
    {tasks : List (Int × TId)} {high : Int} (hok : RecvOK σ.targets.length (σ.src s) tasks high)
    (hfresh : RecvFresh σ γ s tasks) (h : Step c σ (.recv s tasks high) σ') :
    InvF σ' (γ.upd σ (.recv s tasks high)) := by
  obtain ⟨hinc, htasks, _, hhigh⟩ := hok
  have hMM : γ.maxHighOf s ≤ (γ.upd σ (.recv s tasks high)).maxHighOf s := maxHighOf_upd_mono _ s
  have hhM : high ≤ (γ.upd σ (.recv s tasks high)).maxHighOf s := by
    rw [maxHighOf_upd_self]; split <;> omega
  have hS := hI.src s
  have hS' := hS.mono hMM
  have lift := fun x' hact => invF_setSrc_ghost (γ' := γ.upd σ (.recv s tasks high)) (x' := x') hI
    (src_lt_of_active σ hact) (fun _ e => maxHighOf_upd_ne e) (fun _ _ => rfl) (fun _ => rfl)
  cases h with
  | recvWm _ _ hact hidle =>
    refine lift _ hact { hS' with wm_le := ?_, wm_pend := ?_, bcast_le := ?_, high_le := hhM } (fun t => ?_)
    · intro h' e; cases e; exact Int.le_refl _
    · intro h' e t y hy
      rw [show pendVals _ t = [] from pendVals_ite_bcast _ _ _] at hy; cases hy
    · intro high' todo' e
      simp only at e
      split at e
      · cases e
      · cases e; exact Int.le_refl _
    · have hp := hI.pair s t
      -- nothing new is received, the base does not move: what is needed was needed
      have hold : ∀ {id}, Need (γ.upd σ (.recv s [] high)) s t _ id → Need γ s t (σ.src s) id :=
        fun hn => hn.of_eq
      exact hp.of_recv (P := []) hMM hhigh hhM
        (by simp only [flat, pendVals_ite_bcast, hidle, pendVals_idle, List.append_nil])
        (fun id hn => Or.inl (hold hn)) .nil nofun hS.last_le
        ⟨fun v hv => Or.inl hv, fun id hn => hp.seeded id (hold hn)⟩ hS.grave_le
  | recvTasks _ _ _ hact hidle =>
    simp only [hc, if_true]
    have hown : ∀ t id, id ∈ ownedIds tasks t → (σ.src s).lastHigh ≤ id ∧ id < high := fun t id hid =>
      have := htasks (id, t) (mem_ownedIds.1 hid)
      ⟨this.2.1, this.2.2.1⟩
    refine lift _ hact { hS' with wm_le := ?_, wm_pend := ?_, bcast_le := nofun, high_le := hhM } (fun t => ?_)
    · exact fun h' e => Int.le_trans (hS.wm_le h' e) hhigh
    · intro h' e t y hy
      obtain ⟨id, hid, rfl⟩ := List.mem_map.1 (pendVals_groups tasks t ▸ hy)
      have := hS.wm_le h' e
      have := (hown t id hid).1
      show h' ≤ id
      omega
    · have hp := hI.pair s t
      refine hp.of_recv (P := (ownedIds tasks t).map fun i => (i, true)) hMM hhigh hhM ?_ ?_ ?_ ?_ hS.last_le ?_
        hS.grave_le
      · simp only [flat, hidle, pendVals_idle, List.append_nil, pendVals_groups]
      · intro id hn
        exact (cur_recv hn.1 rfl rfl hfresh).imp (⟨·, hn.2⟩) fun ⟨hn, hm⟩ => ⟨hm, List.mem_map.2 ⟨id, mem_ownedIds.2 hn, rfl⟩⟩
      · rw [List.pairwise_map]
        exact (ownedIds_pairwise hinc t).imp (fun {a b} hab _ _ => by show a ≤ b; omega)
      · intro y hy
        obtain ⟨id, hid, rfl⟩ := List.mem_map.1 hy
        exact hown t id hid
      · refine (seed_safe (s := s) (tg := σ.tgt t) hinc ?_ hp.seeded).imp ?_ id
        · exact fun id hn => (cur_recv hn.1 rfl rfl hfresh).imp (⟨·, hn.2⟩) And.left
        · exact fun h v hv => (h v hv).imp_right fun h => ⟨h.2, by have := (hown t v h.1).2; omega⟩

end S2S.Routing
