import S2S.Proofs.RoutingC03Inv2
import S2S.Proofs.RoutingC03Meas
/-! Quiescent states of the fault-free machine with all targets started are idle. -/
namespace S2S.Routing
variable {c : Cfg}

/-- `Inv2` with every target started: where a quiescent state is an idle one -/
structure Good (nt : Nat) (σ : State) : Prop where
  inv2 : Inv2 nt σ
  started : ∀ t, t < nt → (σ.tgt t).started = true

/-- every queue is empty and nobody is in the middle of a hand-over -/
structure Idle (σ : State) : Prop where
  srcs : ∀ s, (σ.src s).pc = .idle ∧ (σ.src s).ackChan = []
  tgts : ∀ t, (σ.tgt t).sendChan = [] ∧ (σ.tgt t).holding = none ∧ (σ.tgt t).ackPc = .idle ∧
    (σ.tgt t).replayTodo = none

theorem Good.registered {nt : Nat} {σ : State} (hG : Good nt σ) {t : TId} (ht : t < nt) :
    (σ.tgt t).registered = true := (hG.inv2.j.tgts t).reg (Or.inl (hG.started t ht))

theorem hasRoom_nil {α} (hcap : 0 < c.chanCap) : hasRoom c ([] : List α) = true := decide_eq_true hcap

theorem idle_of_quiescent {nt : Nat} {σ : State} (hcap : 0 < c.chanCap) (hG : Good nt σ) (hq : Quiescent c [] σ) :
    Idle σ := by
  -- queue by queue, in an order that matters: `take` needs nothing in hand (h3 before h4), `deliver` room in the
  -- channel (h4 before h5), `ackFwd` room in the ack channel (h2 before h6)
  have stuck {p : Prop} {a : Act} {σ' : State} (hm : a ∈ eagerActs σ []) (hs : Step c σ a σ') : p :=
    nomatch (firstEnabled_none hq a hm).symm.trans hs.to_step
  have hlen := hG.inv2.j.len
  have h1 : ∀ t, (σ.tgt t).replayTodo = none := fun t =>
    match hr : (σ.tgt t).replayTodo with
    | none => rfl
    | some [] => stuck (mem_eager_replay (tgt_lt_of_replayTodo σ t (hr ▸ nofun)) hr (.head _)) (.replayDone t hr)
    | some ((k, v) :: r) => by
      have hm : Act.replayStep t k ∈ eagerActs σ [] :=
        mem_eager_replay (tgt_lt_of_replayTodo σ t (hr ▸ nofun)) hr (.head _)
      -- the watermark is replayed or not: the step happens either way
      by_cases hw : ∃ h, (σ.src k).replayWm v = some h ∧ (h != 0 && hasRoom c (σ.tgt t).sendChan) = true
      · obtain ⟨h, e, hok⟩ := hw
        exact stuck hm (.replaySend t k hr (aget_cons_self ..) e hok)
      · exact stuck hm (.replaySkip t k hr (aget_cons_self ..) fun h e => Bool.eq_false_iff.2 fun hok => hw ⟨h, e, hok⟩)
  have h2 : ∀ s, (σ.src s).ackChan = [] := fun s =>
    match hc : (σ.src s).ackChan with
    | [] => rfl
    | (k, v) :: r => by
      have hact : (σ.src s).active = true :=
        (hG.inv2.inv.srcs s).active (ne_of_apply_ne Source.ackChan (hc ▸ nofun))
      have hm : Act.rack s ∈ eagerActs σ [] := mem_eager_src (src_lt_of_active σ hact) (.head _)
      by_cases hw : ∃ m, minVal (aset (σ.src s).ackByTarget k v) = some m ∧ (σ.src s).lastSentMin ≤ m
      · obtain ⟨m, e, hge⟩ := hw
        exact stuck hm (.rackSend s hact hc e hge)
      · exact stuck hm (.rackQuiet s hact hc fun m e => Int.not_le.1 fun hge => hw ⟨m, e, hge⟩)
  have h3 : ∀ t, (σ.tgt t).holding = none := fun t =>
    match hh : (σ.tgt t).holding with
    | none => rfl
    | some e => stuck (mem_eager_tgt (tgt_lt_of_holding σ t (hh ▸ nofun)) (.head _)) (.emit t hh)
  have h4 : ∀ t, (σ.tgt t).sendChan = [] := fun t =>
    match hc : (σ.tgt t).sendChan with
    | [] => rfl
    | m :: r =>
      have ht := tgt_lt_of_apply_ne Target.sendChan σ t (hc ▸ nofun)
      stuck (mem_eager_tgt ht (by simp)) (.take t (hG.started t (hlen ▸ ht)) (h3 t) hc)
  have h5 : ∀ s, (σ.src s).pc = .idle := fun s =>
    match hpc : (σ.src s).pc, (hG.inv2.j.srcs s).pc2 with
    | .idle, _ => rfl
    | .bcast _ [], hne => absurd rfl hne
    | .bcast _ ((k, v) :: r), _ => by
      have hm : Act.bcastStep s k ∈ eagerActs σ [] := mem_eager_src (src_lt_of_pc σ s (hpc ▸ nofun)) (by simp [hpc])
      cases hok : ((σ.tgt k).registered && (σ.tgt k).inc == v && hasRoom c (σ.tgt k).sendChan) with
      | true =>
        simp only [Bool.and_eq_true, beq_iff_eq] at hok
        exact stuck hm (.bcastSend s k hpc (aget_cons_self ..) hok.1.1 hok.1.2 hok.2)
      | false => exact stuck hm (.bcastDrop s k hpc (aget_cons_self ..) hok)
    | .deliver [], hne => absurd rfl hne.1
    | .deliver ((k, v) :: r), hne =>
      stuck (mem_eager_src (src_lt_of_pc σ s (hpc ▸ nofun)) (by simp [hpc]))
        (.deliver s k hpc (aget_cons_self ..) (hG.registered (hne.2 _ List.mem_cons_self)) (h4 k ▸ hasRoom_nil hcap))
  have h6 : ∀ t, (σ.tgt t).ackPc = .idle := fun t =>
    match hpc : (σ.tgt t).ackPc, (hG.inv2.j.tgts t).apcact with
    | .idle, _ => rfl
    | .forwarding [] d r, _ =>
      stuck (mem_eager_tgt (tgt_lt_of_ackPc σ t (hpc ▸ nofun)) (by simp [hpc])) (.ackFin t hpc)
    | .forwarding ((k, v) :: rest) d r, hact =>
      stuck (mem_eager_tgt (tgt_lt_of_ackPc σ t (hpc ▸ nofun)) (by simp [hpc]))
        (.ackFwd t k hpc (aget_cons_self ..) (hact _ List.mem_cons_self) (h2 k ▸ hasRoom_nil hcap))
  exact ⟨fun s => ⟨h5 s, h2 s⟩, fun t => ⟨h4 t, h3 t, h6 t, h1 t⟩⟩

end S2S.Routing
