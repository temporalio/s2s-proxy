import S2S.Proofs.RoutingFaultMain
import S2S.Proofs.RoutingTightStep
/-!
C04 modulo the recorded findings, TIGHT form (`Props/C04T.lean`).  `InvT` holds initially and is preserved by every step;
every ack a step sends equals the post-state's `lastSentAck` (`step_acksAreLast`), whose source is active; `last_safe` of
`InvF` covers the needed tasks, `last_safe` of `PairT` the lost-and-unpassed ones; every other task is excused.
-/
namespace S2S.Routing

-- `σ.src s`, `σ.tgt t` stay folded: a failed unification of a changed record with them otherwise unfolds the lookup
attribute [local irreducible] State.src State.tgt in
theorem step_tight {c : Cfg} (hc : c.seedAcks = true) {σ σ' : State} {γ : GhostT} (hI : InvT σ γ) {a : Act}
    (henv : StepEnvF σ γ.g a) (h : Step c σ a σ') : Tight σ' (γ.upd σ a) := by
  have H := hI.tight
  cases h with
  | recvWm s high hact =>
    refine tight_recv hI henv.1 henv.2 hact _ ?_ (List.append_nil _).symm rfl
    show PcS (if _ then _ else _)
    split <;> trivial
  | recvTasks s tasks high hact =>
    simp only [hc, if_true]
    refine tight_recv hI henv.1 henv.2 hact _ (fun t ids hag => ?_) rfl rfl
    obtain rfl : ids = ownedIds tasks t := by rw [← getD_aget_groupByOwner tasks t, hag]; rfl
    exact lastMax_of_pairwise (ownedIds_pairwise henv.1.1 t)
  | bcastSend s t => exact tight_handoff H (PcS.bcast_next _ _ _) trivial
  | bcastDrop s t => exact H.setSrc (PcS.bcast_next _ _ _) (fun t' => (H.pair s t').src_congr)
  | deliver s t hpc hids hreg hroom => exact tight_deliver H (.deliver s t hpc hids hreg hroom)
  | take t hst hhold hch => exact tight_take (c := c) H (.take t hst hhold hch)
  | emit t | startTgt t | replayDone t | replaySkip t => exact tight_setTgt H t _ (H.tgt t)
  | replaySend t => exact tight_setTgt H t _ (forall_push (H.tgt t) trivial)
  | tack t w => exact H.setTgt (H.tgt t) (fun s => (H.pair s t).tack w _)
  | ackFwd t s hpc hv hact hroom => exact tight_ackFwd H (.ackFwd t s hpc hv hact hroom)
  | ackFin t =>
    refine H.setTgt (H.tgt t) (fun s => ?_)
    have hp := H.pair s t
    exact { hp with ring_lost := fun p o hm => hp.ring_lost p o (List.mem_of_mem_drop hm), todo_safe := nofun }
  | rackQuiet s _ hch => exact H.setSrc (H.src s) (fun t => (H.pair s t).rack hch _ (Or.inl rfl))
  | rackSend s _ hch hm =>
    exact H.setSrc (H.src s) (fun t => (H.pair s t).rack hch _ (Or.inr ⟨_, _, rfl, hm, clampAck_le _ _⟩))
  | openSrc s _ hsl =>
    -- every task received so far is excused by (b): nothing of the stream is lost-and-unpassed
    refine H.setSrc' hsl (fun _ _ a => a)
      (fun s' t e hp => hp.mono (fun id hl => hl.of_eq (hb := ?_))) trivial
      (fun t => .empty (fun id hl => cur_base_full ?_ id hl.1) s t _ _)
    · unfold ebase
      simp only [GhostT.upd, baseOf_upd_ne e]
    · simp only [ebase, GhostT.upd, baseOf_upd_self, if_true]
  | openTgt t hreg =>
    -- the new incarnation holds nothing, as the unregistered stream did (`TgtF.unreg`)
    refine H.setTgt nofun (fun s => ?_)
    have hp := H.pair s t
    rw [(hI.f.tgt t).unreg hreg] at hp
    exact hp.congr
  | tick =>
    exact H.tick (fun _ x hx => by rw [tickSrc_eq]; exact hx) (fun _ tg ht => by rw [tickTgt_eq]; exact ht)
      (fun _ _ _ _ hp => hp.tick.mono (fun _ hl => ⟨hl.1.of_tick, hl.2⟩))
  | breakTgt t hreg => exact tight_breakTgt hI hreg
  | breakSrc s => exact H.setSrc trivial (fun t => .empty (fun id hl => cur_inactive rfl id hl.1) s t _ _)

theorem step_invT {c : Cfg} (hc : c.seedAcks = true) {σ σ' : State} {γ : GhostT} (hI : InvT σ γ) {a : Act}
    (henv : StepEnvF σ γ.g a) (h : step c σ a = some σ') : InvT σ' (γ.upd σ a) :=
  ⟨GhostT.upd_g σ γ a ▸ step_invF hc hI.f henv h, step_tight hc hI henv (Step.of_step h)⟩

theorem InvT.lastAck_safe {σ : State} {γ : GhostT} (hI : InvT σ γ) {s : SId} {v : Int}
    (hlast : (σ.src s).lastSentAck = some v) {p : Int × TId} (hp : p ∈ (σ.src s).received) (hlt : p.1 < v) :
    Confirmed σ s p.1 p.2 ∨ ExcusedT σ γ s p := by
  have hb : ebase γ.g s (σ.src s) = γ.g.baseOf s := by
    unfold ebase; rw [if_pos ((hI.f.src s).last_active v hlast)]
  by_cases h1 : p ∈ (σ.src s).received.take (γ.g.baseOf s)
  · exact .inr (.inl h1)
  · by_cases h2 : (s, p.1) ∈ γ.g.lostOf p.2
    · by_cases h3 : (s, p.1) ∈ γ.passedOf p.2
      · exact .inr (.inr h3)
      · exact .inl ((hI.tight.pair s p.2).last_safe v hlast p.1 ⟨⟨hp, hb ▸ h1⟩, h2, h3⟩ hlt)
    · exact .inl ((hI.f.pair s p.2).last_safe v hlast p.1 ⟨⟨hp, hb ▸ h1⟩, h2⟩ hlt)

theorem acks_safeT_of_inv {c : Cfg} (hc : c.seedAcks = true) (σ : State) (γ : GhostT) (hI : InvT σ γ) (acts : List Act)
    (henv : EnvOKT c σ γ acts) : AcksSafeTAlong c σ γ acts := by
  fun_induction AcksSafeTAlong c σ γ acts with
  | case1 => trivial
  | case2 σ γ a rest σ' hstep ih =>
    have hI' : InvT σ' (γ.next c σ a) := ghostT_next_of_step γ hstep ▸ step_invT hc hI henv.1 hstep
    exact ⟨fun s _ v hv _ => hI'.lastAck_safe (step_acksAreLast hstep s v hv),
      ih hI' (by simpa only [hstep, Option.getD_some] using henv.2)⟩
  | case3 σ γ a rest hstep ih =>
    exact ih hI (by simpa only [hstep, ghostT_next_none γ hstep, Option.getD_none] using henv.2)

/-- **C04 modulo the recorded findings, tight form**: `ExcusedT` excuses a lost task only once a later incarnation of
    its target has passed it -/
theorem acks_safe_tight (ns nt : Nat) (acts : List Act)
    (henv : EnvOKT Cfg.cur (State.init ns nt) {} acts) :
    AcksSafeTAlong Cfg.cur (State.init ns nt) {} acts :=
  acks_safeT_of_inv cur_seedAcks _ _ (invT_init ns nt) acts henv

end S2S.Routing
