import S2S.Proofs.RoutingC03Round
/-! Round 2, phase A: after `recv s [] H` from an idle state, settling delivers the watermark `H`
of `s` into every target's ring and emits it. -/
namespace S2S.Routing
variable {c : Cfg}

/-- the broadcast of `H` still has `t` on its list, for incarnation `inc` -/
def TodoHas (H : Int) (pc : RecvPc) (t : TId) (inc : Nat) : Prop :=
  ∃ todo, pc = .bcast H todo ∧ aget todo t = some inc

/-- no broadcast has `t` on its list -/
def TodoNot (pc : RecvPc) (t : TId) : Prop := ∀ high todo, pc = .bcast high todo → aget todo t = none

/-- target has taken and emitted the watermark `(s, H)` -/
def Done (s : SId) (H : Int) (tg : Target) : Prop :=
  tg.sendChan = [] ∧ tg.holding = none ∧ (∃ e, tg.stream.getLast? = some e ∧ tg.nextProxyId ≤ e.high) ∧
    ∃ p, (p, s, H) ∈ tg.ring

/-- `WA`, the Watermark in phase A: where `(s, H)` is on its way to target `t`: still on the broadcast list of `s` (for
    `t`'s current incarnation, so the hand-over will not be dropped); queued in `t`'s channel; taken, i.e. in the ring
    with the message in hand; emitted (`Done`) -/
def WA (s : SId) (H : Int) (pc : RecvPc) (t : TId) (tg : Target) : Prop :=
  (TodoHas H pc t tg.inc ∧ tg.sendChan = [] ∧ tg.holding = none) ∨
  (TodoNot pc t ∧ ((tg.sendChan = [.wm s H] ∧ tg.holding = none) ∨
     (tg.sendChan = [] ∧ (∃ e, tg.holding = some e ∧ e.keepalive = false ∧ tg.nextProxyId ≤ e.high) ∧
        ∃ p, (p, s, H) ∈ tg.ring) ∨
     Done s H tg))

/-- during the settle after `recv s [] H` from an idle state: only `s` is busy, broadcasting `H`; no acknowledgement is
    on its way back; every target is somewhere in `WA`.  The rider `p.1 < nt` of `pcH` is what lets `bcast_ready` look a
    target of the list up in `wa`, which speaks of `t < nt` only -/
structure PhA (nt : Nat) (s : SId) (H : Int) (σ : State) : Prop where
  good : Good nt σ
  hs : (σ.src s).lastHigh = H
  act : (σ.src s).active = true
  pcs : ∀ s', s' ≠ s → (σ.src s').pc = .idle
  pcS : ∀ pend, (σ.src s).pc ≠ .deliver pend
  pcH : ∀ high todo, (σ.src s).pc = .bcast high todo → high = H ∧ ∀ p ∈ todo, p.1 < nt
  ach : ∀ s', (σ.src s').ackChan = []
  apc : ∀ t, (σ.tgt t).ackPc = .idle
  rep : ∀ t, (σ.tgt t).replayTodo = none
  wa : ∀ t, t < nt → WA s H (σ.src s).pc t (σ.tgt t)

theorem WA.drop {s : SId} {H : Int} {todo : List (TId × Nat)} {t t' : TId} {tg : Target} (hne : t ≠ t')
    (h : WA s H (.bcast H todo) t tg) : WA s H (pcDrop (.bcast H) todo t') t tg := by
  have hg : aget (todo.filter (fun p => p.1 != t')) t = aget todo t := by rw [aget_filter_ne, if_neg hne]
  rcases h with ⟨⟨todo0, h0, hget⟩, h2⟩ | ⟨hnot, h2⟩
  · cases h0
    rw [← hg] at hget
    refine Or.inl ⟨?_, h2⟩
    rcases pcDrop_cases (.bcast H) todo t' with ⟨e, -⟩ | ⟨-, e⟩
    · rw [e] at hget; cases hget
    · exact ⟨_, e, hget⟩
  · exact Or.inr ⟨pcDrop_ind (P := (TodoNot · t)) nofun fun _ _ _ e => by cases e; rw [hg]; exact hnot _ _ rfl, h2⟩

theorem TodoNot.drop (H : Int) (todo : List (TId × Nat)) (t' : TId) : TodoNot (pcDrop (.bcast H) todo t') t' :=
  pcDrop_ind (P := (TodoNot · t')) nofun fun _ _ _ e => by cases e; rw [aget_filter_ne, if_pos rfl]

theorem PhA.bcast_ready {nt : Nat} {s : SId} {H : Int} {σ : State} (hA : PhA nt s H σ) {s' : SId} {t' : TId}
    {high : Int} {todo : List (TId × Nat)} {inc : Nat} (hpc : (σ.src s').pc = .bcast high todo)
    (hinc : aget todo t' = some inc) :
    s' = s ∧ high = H ∧ (∀ p ∈ todo, p.1 < nt) ∧ t' < nt ∧ (σ.tgt t').inc = inc ∧ (σ.tgt t').sendChan = [] ∧
      (σ.tgt t').holding = none := by
  have hss : s' = s := Decidable.byContradiction fun hne => by rw [hA.pcs s' hne] at hpc; cases hpc
  subst hss
  obtain ⟨rfl, htodolt⟩ := hA.pcH _ _ hpc
  have ht'lt : t' < nt := htodolt _ (aget_some_mem hinc)
  have hwa' := hA.wa t' ht'lt
  rw [hpc] at hwa'
  rcases hwa' with ⟨⟨todo0, h0, hget⟩, hch, hh⟩ | ⟨hnot, _⟩
  · cases h0
    rw [hinc] at hget
    exact ⟨rfl, rfl, htodolt, ht'lt, (Option.some.inj hget).symm, hch, hh⟩
  · rw [hnot _ _ rfl] at hinc; cases hinc

theorem PhA.setTgt {nt : Nat} {s : SId} {H : Int} {σ : State} (hA : PhA nt s H σ) {t' : TId} {y : Target}
    (hG : Good nt (σ.setTgt t' y)) (hapc : y.ackPc = (σ.tgt t').ackPc) (hrep : y.replayTodo = (σ.tgt t').replayTodo)
    (hwa : t' < nt → WA s H (σ.src s).pc t' y) : PhA nt s H (σ.setTgt t' y) :=
  { hA with
    good := hG
    apc := fun t0 => (tgt_proj_setTgt Target.ackPc hapc t0).trans (hA.apc t0)
    rep := fun t0 => (tgt_proj_setTgt Target.replayTodo hrep t0).trans (hA.rep t0)
    wa := forall_tgt_setTgt (P := fun t y => t < nt → WA s H (σ.src s).pc t y) hwa hA.wa }

theorem PhA.eager {nt : Nat} {s : SId} {H : Int} {σ σ' : State} {a : Act} (hcap : 0 < c.chanCap) (hA : PhA nt s H σ)
    (ha : a.isEager = true) (h : step c σ a = some σ') : PhA nt s H σ' := by
  obtain ⟨hG', hs', hact'⟩ := hA.good.eager_src hA.hs hA.act ha h
  have hlen := hA.good.inv2.j.len
  have hslt := src_lt_of_active σ hA.act
  -- only `s` broadcasts and only send channels are in use: of the eager actions, `bcastStep s`, `take`, `emit`
  cases Step.of_step h with
  | deliver s' _ hpc =>
    by_cases hne : s' = s
    · subst hne; exact absurd hpc (hA.pcS _)
    · rw [hA.pcs s' hne] at hpc; cases hpc
  | ackFwd _ _ hpc | ackFin _ hpc => rw [hA.apc] at hpc; cases hpc
  | rackQuiet _ _ hch | rackSend _ _ hch => rw [hA.ach] at hch; cases hch
  | replaySend _ _ htodo | replaySkip _ _ htodo | replayDone _ htodo => rw [hA.rep] at htodo; cases htodo
  | bcastDrop s' t' hpc hinc hno =>
    obtain ⟨-, -, -, ht', rfl, hch, -⟩ := hA.bcast_ready hpc hinc
    rw [hA.good.registered ht', hch, hasRoom_nil hcap, beq_self_eq_true] at hno
    cases hno
  | @bcastSend s' t' high todo inc hpc hinc =>
    obtain ⟨rfl, rfl, htodolt, -, rfl, hch, hh⟩ := hA.bcast_ready hpc hinc
    refine ⟨hG', hs', hact', ?_, ?_, ?_, ?_, ?_, ?_, ?_⟩
    · intro s0 hne; rw [src_setTgt, src_setSrc_ne _ hne]; exact hA.pcs s0 hne
    · intro pend
      rw [src_setTgt, src_setSrc_self _ hslt]
      exact pcDrop_ind (P := (· ≠ _)) nofun fun _ => nofun
    · intro high' todo' hpc'
      rw [src_setTgt, src_setSrc_self _ hslt] at hpc'
      rcases pcDrop_cases (.bcast high) todo t' with ⟨_, e⟩ | ⟨_, e⟩ <;> rw [e] at hpc' <;> cases hpc'
      exact ⟨rfl, fun p hp => htodolt p (List.mem_filter.1 hp).1⟩
    · intro s0; exact (src_proj_setSrc Source.ackChan (by rfl) s0).trans (hA.ach s0)
    · intro t0; exact (tgt_proj_setTgt Target.ackPc (by rfl) t0).trans (hA.apc t0)
    · intro t0; exact (tgt_proj_setTgt Target.replayTodo (by rfl) t0).trans (hA.rep t0)
    · intro t0 ht0
      rw [src_setTgt, src_setSrc_self _ hslt]
      by_cases hne : t0 = t'
      · subst hne
        rw [tgt_setTgt_self (σ := σ.setSrc _ _) _ (hlen ▸ ht0)]
        refine Or.inr ⟨TodoNot.drop high todo t0, Or.inl ⟨?_, hh⟩⟩
        simp only [Target.push, hch, List.nil_append]
      · rw [tgt_setTgt_ne _ hne, tgt_setSrc]
        have := hA.wa t0 ht0
        rw [hpc] at this
        exact this.drop hne
  | @take t' m rest _ _ hch =>
    refine hA.setTgt hG' (by cases m <;> rfl) (by cases m <;> rfl) fun ht' => ?_
    -- every alternative of `WA` says what is in the channel; in one of them it is not empty
    rcases hA.wa t' ht' with ⟨_, hch', _⟩ | ⟨hnot, ⟨hch', hh⟩ | ⟨hch', _⟩ | ⟨hch', _⟩⟩ <;>
      rw [hch'] at hch <;> cases hch
    refine Or.inr ⟨hnot, Or.inr (Or.inl ⟨rfl, ⟨_, rfl, rfl, Int.le_refl _⟩, (σ.tgt t').nextProxyId + 1, ?_⟩)⟩
    simp [process]
  | @emit t' e he =>
    refine hA.setTgt hG' rfl rfl fun ht' => ?_
    rcases hA.wa t' ht' with ⟨_, _, hh⟩ | ⟨hnot, ⟨_, hh⟩ | ⟨hch', ⟨e', hh, hka, hle⟩, hring⟩ | ⟨_, hh, _⟩⟩ <;>
      rw [hh] at he <;> cases he
    refine Or.inr ⟨hnot, Or.inr (Or.inr ⟨hch', rfl, ⟨e, ?_, hle⟩, hring⟩)⟩
    show (((σ.tgt t').emitted ++ [e]).filter (fun e => !e.keepalive)).getLast? = some e
    rw [List.filter_append]
    simp [hka]
  | _ => cases ha

theorem PhA.enter {nt : Nat} {s : SId} {H : Int} {σ : State} (hK : Keep nt s H σ) (hI : Idle σ)
    (hnt : 0 < nt) (h1 : 1 ≤ H) :
    ∃ σa, step c σ (.recv s [] H) = some σa ∧ PhA nt s H σa := by
  have hlen := hK.good.inv2.j.len
  have hslt := src_lt_of_active σ hK.act
  have hs := Step.to_step (c := c) (.recvWm s H hK.act (hI.srcs s).1)
  obtain ⟨hK', hH⟩ := hK.afterRecv h1 hs
  -- every target is registered, so the snapshot has all of them
  have hget : ∀ t, t < nt → aget σ.regs t = some (σ.tgt t).inc := fun t ht => aget_regs (hK.good.registered ht)
  have hne : ¬ σ.regs.isEmpty = true := fun he => by
    have h0 := hget 0 hnt
    rw [List.isEmpty_iff.1 he] at h0; cases h0
  refine ⟨_, hs, hK'.good, hH, hK'.act, ?_, ?_, ?_, ?_, ?_, ?_, ?_⟩
  · intro s0 hne0; rw [src_setSrc_ne _ hne0]; exact (hI.srcs s0).1
  · intro pend; rw [src_setSrc_self _ hslt, if_neg hne]; exact fun e => by cases e
  · intro high todo hpc'
    rw [src_setSrc_self _ hslt, if_neg hne] at hpc'
    cases hpc'
    exact ⟨rfl, fun p hp => hlen ▸ (mem_regs.1 hp).1⟩
  · intro s0; exact (src_proj_setSrc Source.ackChan (by rfl) s0).trans (hI.srcs s0).2
  · intro t0; exact (hI.tgts t0).2.2.1
  · intro t0; exact (hI.tgts t0).2.2.2
  · intro t0 ht0
    rw [src_setSrc_self _ hslt, if_neg hne]
    exact Or.inl ⟨⟨_, rfl, hget t0 ht0⟩, (hI.tgts t0).1, (hI.tgts t0).2.1⟩

theorem PhA.done {nt : Nat} {s : SId} {H : Int} {σ : State} (hA : PhA nt s H σ) (hI : Idle σ) :
    ∀ t, t < nt → Done s H (σ.tgt t) := by
  intro t ht
  rcases hA.wa t ht with ⟨⟨todo, hpc, _⟩, _⟩ | ⟨_, ⟨hch, _⟩ | ⟨_, ⟨e, he, _⟩, _⟩ | hd⟩
  · rw [(hI.srcs s).1] at hpc; cases hpc
  · rw [(hI.tgts t).1] at hch; cases hch
  · rw [(hI.tgts t).2.1] at he; cases he
  · exact hd

theorem PhA.settled {nt : Nat} {s : SId} {H : Int} {σ : State} (hA : PhA nt s H σ) :
    PhA nt s H (settleQ Cfg.cur σ) ∧ Idle (settleQ Cfg.cur σ) :=
  settled_idle (by decide) PhA.good (PhA.eager (by decide)) hA

end S2S.Routing
