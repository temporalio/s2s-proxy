import S2S.Proofs.MuxPoolInv
/-! Progress (C10): healing continuations terminate, and when they cannot continue the pool is full. -/
namespace S2S.MuxPool

theorem Inv.ne_ptr {σ : St} (hi : Inv σ) {c : Nat} (hst : (σ.conn c).stage ≠ .sessioned) :
    ∀ c', (σ.phase = .haveSession c' ∨ σ.phase = .pinged c') → c ≠ c' :=
  fun c' h heq => hst (heq ▸ (hi.ptr c' .sessioned (by rcases h with h | h <;> rw [h] <;> rfl)).2)

/-- an entry the provider does not hold changes: `doomed` does not see it -/
theorem healMeasure_lt_of {σ σ' : St} {c : Nat} {x : Conn} (hlen : c < σ.conns.length) (hc : σ'.conns = σ.conns.set c x)
    (hph : σ'.phase = σ.phase) (hne : ∀ c', (σ.phase = .haveSession c' ∨ σ.phase = .pinged c') → c ≠ c')
    (h : 5 * σ'.permits + healWeight x < 5 * σ.permits + healWeight (σ.conn c)) : healMeasure σ' < healMeasure σ := by
  have hcn c' (h : σ.phase = .haveSession c' ∨ σ.phase = .pinged c') : σ'.conn c' = σ.conn c' := by
    unfold St.conn; rw [hc]; exact conn_setConn_of_ne (σ := σ) (hne c' h).symm
  have hd : σ'.doomed = σ.doomed := by
    unfold St.doomed; rw [hph]; split
    · rw [hcn _ (.inl ‹_›)]
    · rw [hcn _ (.inr ‹_›)]
    · rfl
  have := wsum_setConn healWeight x hlen
  unfold healMeasure; rw [hd, hph, hc]; omega

attribute [local simp] healMeasure St.doomed Phase.healRank healWeight St.setConn St.conn getD_set_same Conn.closeBoth Conn.dying
  wsum_append wsum in
theorem heal_decrease {d : Defects} {σ σ' : St} {a : Act} (hi : Inv σ) (hl : σ.live = true)
    (hh : healing σ a = true) (hs : Step d σ a σ') : healMeasure σ' < healMeasure σ ∧ σ'.live = true := by
  refine ⟨?_, by rcases hs.live with h | ⟨rfl, _⟩ <;> first | exact h ▸ hl | cases hh⟩
  cases hs with
  | acquireFail | connErrDead | connErr | sessErrDead | sessErr | cancel | onClose | peerClose | localClose =>
    simp [healing] at hh
  | pingErrDead _ hl' | addDead _ hl' => rw [hl] at hl'; cases hl'
  -- a permit (5) pays for the rank 0 → 4; then the rank drops step by step
  | acquire => simp_all; omega
  | connOk | pingOk => simp_all
  | @sessOk c hp =>
    obtain ⟨hlen, hst⟩ := hi.ptr c _ (congrArg Phase.held hp)
    refine wsum_lt_of hlen rfl ?_; simp_all
  -- only a doomed attempt may fail: the doom (7) pays for the permit that comes back (5)
  | @pingErr c k hp =>
    obtain ⟨hlen, hst⟩ := hi.ptr c _ (congrArg Phase.held hp)
    simp only [healing, hp] at hh
    refine wsum_lt_of hlen rfl ?_; simp_all <;> omega
  -- rank 1 → 0; if the new entry is born dying (7), the attempt was doomed (7)
  | @add c hp =>
    obtain ⟨hlen, hst⟩ := hi.ptr c _ (congrArg Phase.held hp)
    refine wsum_lt_of hlen rfl ?_; simp_all
  -- weight 7 → 6, then 6 → 0 pays for the permit (5); a registered or cleaned entry is not the one the provider holds
  | @cleanup c _ hst hlen | @release c _ hst hlen =>
    refine healMeasure_lt_of hlen rfl rfl (hi.ne_ptr (by rw [hst]; nofun)) ?_
    simp_all <;> omega

theorem healRun_spec (d : Defects) (acts : List Act) {σ : St} (hi : Inv σ) (hl : σ.live = true)
    (hr : healRun d σ acts = true) : acts.length ≤ healMeasure σ ∧ (run d σ acts).live = true ∧ Inv (run d σ acts) := by
  induction acts generalizing σ with
  | nil => exact ⟨Nat.zero_le _, hl, hi⟩
  | cons a r ih =>
    simp only [healRun, Bool.and_eq_true] at hr
    obtain ⟨hh, hr⟩ := hr
    cases hs : step d σ a with
    | none => simp [hs] at hr
    | some σ' =>
      simp only [hs] at hr
      have hs' := Step.of_step hs
      obtain ⟨hlt, hl'⟩ := heal_decrease hi hl hh hs'
      obtain ⟨h1, h2, h3⟩ := ih (inv_step hi hs') hl' hr
      exact ⟨Nat.le_trans (Nat.succ_le_succ h1) hlt, run_cons_some hs r ▸ h2, run_cons_some hs r ▸ h3⟩

theorem heal_terminal (d : Defects) {σ : St} (hi : Inv σ) (hl : σ.live = true)
    (hmax : ∀ a, healing σ a = true → step d σ a = none) :
    σ.registeredCount = σ.cap ∧ σ.allHealthy = true ∧ σ.permits = 0 ∧ σ.phase = .idle := by
  have stuck {a σ'} (ha : healing σ a = true) (hs : Step d σ a σ') : False := hs.not_none (hmax a ha)
  have hph : σ.phase = .idle ∧ σ.permits = 0 := by
    cases hp : σ.phase with
    | idle => exact ⟨rfl, Nat.eq_zero_of_not_pos fun h => stuck rfl (.acquire hp hl h)⟩
    | acquired => exact (stuck rfl (.connOk hp)).elim
    | haveConn c => exact (stuck rfl (.sessOk hp)).elim
    | haveSession c =>
      cases hso : (σ.conn c).sessOpen with
      | true => exact (stuck rfl (.pingOk hp hso)).elim
      | false => exact (stuck (a := .pingErr .other) (by simp [healing, hp, hso]) (.pingErr hp hl)).elim
    | pinged c => exact (stuck rfl (.add hp hl)).elim
    | exited => exact absurd hp (hi.liveOk hl).2
  have hent : ∀ x ∈ σ.conns, x.stage.isHeld = x.stage.isRegistered ∧ (!x.stage.isRegistered || !x.dying σ.live) = true := by
    intro x hx
    obtain ⟨c, hc, rfl⟩ := exists_index_of_mem hx
    cases hst : (σ.conn c).stage with
    | cleaned mid => exact (stuck rfl (.release hst hc)).elim
    | registered mid =>
      cases hd : (σ.conn c).dying σ.live with
      | true => exact (stuck rfl (.cleanup hst hc hd)).elim
      | false => exact ⟨rfl, rfl⟩
    | _ => exact ⟨rfl, rfl⟩
  have hheld : σ.cntS Stage.isHeld = σ.registeredCount := List.countP_congr fun x hx => by rw [(hent x hx).1]
  have hc := hi.cons
  have hlost := (hi.liveOk hl).1
  simp only [hph.1, hph.2, Phase.inflight, hlost, hheld] at hc
  refine ⟨by omega, ?_, hph.2, hph.1⟩
  simpa [St.allHealthy, List.all_eq_true] using fun x hx => (hent x hx).2


/-- the measure bounds the search -/
theorem heal_exists (d : Defects) (σ : St) (hi : Inv σ) (hl : σ.live = true) :
    ∃ acts, healRun d σ acts = true ∧ ∀ a, healing (run d σ acts) a = true → step d (run d σ acts) a = none := by
  induction hm : healMeasure σ using Nat.strongRecOn generalizing σ with
  | _ m ih =>
    by_cases hex : ∃ a σ', healing σ a = true ∧ step d σ a = some σ'
    · obtain ⟨a, σ', ha, hs⟩ := hex
      have hs' := Step.of_step hs
      obtain ⟨hlt, hl'⟩ := heal_decrease hi hl ha hs'
      obtain ⟨acts, h1, h2⟩ := ih _ (hm ▸ hlt) σ' (inv_step hi hs') hl' rfl
      exact ⟨a :: acts, by simp only [healRun, ha, hs, h1, Bool.and_self], run_cons_some hs acts ▸ h2⟩
    · exact ⟨[], rfl, fun a ha => Option.eq_none_iff_forall_ne_some.2 fun σ' hs => hex ⟨a, σ', ha, hs⟩⟩

end S2S.MuxPool
