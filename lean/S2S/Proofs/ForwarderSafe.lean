import S2S.Proofs.ForwarderBasic
/-!
C06 faithfulness: the history-accounting invariant `Acc` of one direction (nothing is lost,
duplicated or reordered between the peer's stream, the listener, the relay loop and the other peer).
-/
namespace S2S.Forwarder

theorem dataIds_append (a b : List Ev) : dataIds (a ++ b) = dataIds a ++ dataIds b := by
  fun_induction dataIds a <;> simp_all [dataIds]

structure Acc (x : Dir) : Prop where
  /-- everything the peer sent is either delivered to the listener or still queued, in order -/
  sent_eq : x.sent = x.delivered ++ dataIds x.queue
  /-- what the other peer received plus what the loop holds is a prefix of what was delivered -/
  hand_prefix : x.out ++ x.loop.hand <+: x.delivered
  /-- while the direction is relaying, nothing else is missing: exactly the two values in hand -/
  running_exact : x.running = true → x.delivered = x.out ++ x.loop.hand ++ x.lis.hand

theorem acc_init : Acc ({} : Dir) := by
  constructor <;> simp [dataIds, RPc.hand, LPc.hand]

theorem Acc.stop {x : Dir} (h : Acc x) {l : RPc} (hal : l.alive = false) (hh : l.hand = []) : Acc { x with loop := l } :=
  { h with
    hand_prefix := by simpa [hh] using (List.prefix_append x.out _).trans h.hand_prefix
    running_exact := by simp [Dir.running, hal] }

theorem acc_dstep {σ : State} {d : D} {a : Act} {x' : Dir} (h : Acc (σ.dir d)) (hs : DStep σ d a x') : Acc x' := by
  have s1 := h.sent_eq
  have s3 := h.running_exact
  cases hs with
  | push v => exact { h with sent_eq := by simp [s1, dataIds_append, dataIds] }
  | sendFail | stall | unstall => exact { h with }
  | lCheck hl =>
    refine { h with running_exact := ?_ }
    simp only [Dir.running, hl, LPc.hand] at s3 ⊢
    split <;> simp_all
  | @lRecv v q hl hr =>
    refine { h with sent_eq := ?_, hand_prefix := ?_, running_exact := ?_ }
    · rcases recvResult_some hr with ⟨h3, h4⟩ | ⟨h3, h4⟩
      · simp [sticky_ids h3, h4, s1]
      · simp only [s1, h4, dataIds]; simp
    · exact h.hand_prefix.trans (List.prefix_append _ _)
    · simp only [Dir.running, hl, LPc.hand] at s3 ⊢
      intro hr
      simp [s3 (by simpa using hr)]
  | lHand hl hw =>
    have hd := s3 (by simp [Dir.running, hl, hw, RPc.alive])
    simp only [hl, hw, RPc.hand, LPc.hand, List.append_nil] at hd
    exact { h with hand_prefix := by simp [RPc.hand, hd], running_exact := fun _ => by simp [RPc.hand, LPc.hand, hd] }
  | lQuit => exact { h with running_exact := by simp [Dir.running] }
  | rLatch | rClosed | rStop => exact h.stop rfl rfl
  | rSend hh =>
    refine { h with hand_prefix := by simpa [hh, RPc.hand, Ev.ids] using h.hand_prefix, running_exact := ?_ }
    simp only [Dir.running, hh, RPc.alive, Ev.isData, RPc.hand, Ev.ids] at s3 ⊢
    intro hr
    simp [s3 (by simpa using hr)]

def AccAll (σ : State) : Prop := ∀ d, Acc (σ.dir d)

theorem AccAll.mk {σ : State} (hs : Acc σ.s) (hi : Acc σ.i) : AccAll σ := fun d => by cases d <;> assumption

theorem acc_step {σ σ' : State} {a : Act} (h : AccAll σ) (hs : Step σ a σ') : AccAll σ' := by
  cases hs with
  | @dir d _ _ hd =>
    intro d'
    rw [dir_setDir]
    split
    · exact acc_dstep (h _) hd
    · exact h _
  | iniCancel | shutdown | csUnblocked | csIgnored | hCancel | hReturn => exact h
  | tick | rDeferI | guardRecv => exact .mk (h .s) ((h .i).stop rfl rfl)
  | rDeferS => exact .mk ((h .s).stop rfl rfl) (h .i)
  | csReturn =>
    have s1 := (h .s).sent_eq
    exact .mk { h .s with sent_eq := by simpa [State.dir, dataIds_append, dataIds, Ev.ids] using s1 } (h .i)

theorem acc_reach (e : Env) (acts : List Act) : AccAll (run (State.init e) acts) :=
  run_induct acc_step acts _ (.mk acc_init acc_init)

theorem Acc.out_prefix {x : Dir} (h : Acc x) : x.out <+: x.sent :=
  h.sent_eq ▸ ((List.prefix_append _ _).trans h.hand_prefix).trans (List.prefix_append _ _)

theorem Acc.exact {x : Dir} (h : Acc x) (hr : x.running = true) :
    x.sent = x.out ++ x.loop.hand ++ x.lis.hand ++ dataIds x.queue := by
  rw [h.sent_eq, h.running_exact hr]

theorem ids_length_le (v : Ev) : v.ids.length ≤ 1 := by cases v <;> simp [Ev.ids]

theorem hand_length_le (x : Dir) : x.loop.hand.length + x.lis.hand.length ≤ 2 := by
  have h1 : x.loop.hand.length ≤ 1 := by
    cases x.loop <;> simp [RPc.hand, ids_length_le]
  have h2 : x.lis.hand.length ≤ 1 := by
    cases x.lis <;> simp [LPc.hand, ids_length_le]
  omega

end S2S.Forwarder
