import S2S.Proofs.RegistryChan
/-!
C08: the receiver registries without identity (`localReceiverCancelFuncs`, `activeReceivers`) for the current
clean-up (`cleanupUnconditional = false`), under `RecvOK`: receiver start-ups and un-cancelled clean-ups of one
shard are serial (windows (iv) and (vii) excluded).
-/
namespace S2S.Registry

/-- at most one receiver of a shard is inside such a section -/
def InvSerial (σ : State) : Prop :=
  ∀ i j, i ≠ j → (σ.inc i).shard = (σ.inc j).shard → (σ.inc i).rpc.sec = true → (σ.inc j).rpc.sec = true → False

/-- a receiver that `owns` (a condition on its incarnation) holds the entry of its shard in `reg` -/
def InvOwns (reg : State → List (Shard × Tok)) (owns : Inc → Prop) (σ : State) : Prop :=
  ∀ i, owns (σ.inc i) → aget (reg σ) (σ.inc i).shard = some i

/-- in phase `hold` and not cancelled - or already cleaning up, which only an un-cancelled receiver begins -/
@[simp] def Inc.owner (hold : RPc → Bool) (x : Inc) : Prop :=
  hold x.rpc = true ∧ (x.cancelled = false ∨ x.rpc.cleaning = true)

def InvC : State → Prop := InvOwns State.cancels (Inc.owner RPc.holdsCancel)

def InvA : State → Prop := InvOwns State.actives (Inc.owner RPc.holdsActive)

/-- a starting receiver has found every settled, un-cancelled receiver of its shard (there is at most one) -/
def InvFound (σ : State) : Prop :=
  ∀ i j, i ≠ j → (σ.inc i).shard = (σ.inc j).shard → (σ.inc j).rpc.starting = true →
    (σ.inc i).rpc.settled = true → (σ.inc i).cancelled = false → (σ.inc j).rpc = .term i

theorem InvSerial.frame {σ σ' : State} (I : InvSerial σ)
    (hi : ∀ j, (σ'.inc j).rpc.sec = true → (σ'.inc j).shard = (σ.inc j).shard ∧ (σ.inc j).rpc.sec = true) :
    InvSerial σ' := by
  intro i j hij hs h1 h2
  obtain ⟨a1, a2⟩ := hi i h1
  obtain ⟨b1, b2⟩ := hi j h2
  exact I i j hij (a1 ▸ b1 ▸ hs) a2 b2

theorem InvSerial.setInc {σ : State} {k : Tok} {x : Inc} (I : InvSerial σ) (B : InvBound σ)
    (hsh : x.shard = (σ.inc k).shard) (H : Others σ k (fun y => !y.rpc.starting && !y.rpc.cleaning)) :
    InvSerial (σ.setInc k x) := by
  -- a receiver inside a section has been handed out, so `H` speaks of it
  have hsec : ∀ j, k ≠ j → (σ.inc j).shard = x.shard → (σ.inc j).rpc.sec = true → False := fun j e hs h => by
    have := H j (lt_next_of_rpc B fun e' => by simp [e', RPc.sec] at h) (Ne.symm e) (hs.trans hsh)
    simp_all [RPc.sec]
  intro i j hij hs h1 h2
  simp only [inc_setInc] at hs h1 h2
  by_cases e1 : k = i <;> by_cases e2 : k = j
  · exact hij (e1.symm.trans e2)
  · simp only [if_pos e1, if_neg e2] at hs h2
    exact hsec j e2 hs.symm h2
  · simp only [if_neg e1, if_pos e2] at hs h1
    exact hsec i e1 hs h1
  · simp only [if_neg e1, if_neg e2] at hs h1 h2
    exact I i j hij hs h1 h2

theorem invSerial_step {c σ a σ'} (h : Step c σ a σ') (hc : c.cleanupUnconditional = false) (hy : RecvOK σ a)
    (B : InvBound σ) (I : InvSerial σ) : InvSerial σ' := by
  cases ha : a.movesRecv
  · intro i j; simp only [h.recvSame ha]; exact I i j
  cases h with
  | rGetSome k g hk hg | rGetNone k hk hg => exact I.setInc B rfl hy
  | rCheckClean k hk hcond =>
    rcases hy with hy | hy
    · simp [hc, hy] at hcond
    · exact I.setInc B rfl hy
  | _ =>
    all_goals first
      | exact Bool.noConfusion ha
      | (refine I.frame fun j hs => ?_; simp [RPc.sec] at hs ⊢ <;> crush)

/-- who is settled after the step was settled before, or inside a section: then nobody else of the shard was starting -/
theorem InvFound.frame {σ σ' : State} (I : InvFound σ) (S : InvSerial σ)
    (hi : ∀ j, ((σ'.inc j).rpc.starting = true → (σ'.inc j).shard = (σ.inc j).shard ∧ (σ.inc j).rpc.starting = true ∧
        ∀ g, (σ.inc j).rpc = .term g → (σ'.inc j).rpc = .term g) ∧
      ((σ'.inc j).rpc.settled = true → (σ'.inc j).cancelled = false → (σ'.inc j).shard = (σ.inc j).shard ∧
        ((σ.inc j).rpc.sec = true ∨ (σ.inc j).rpc.settled = true ∧ (σ.inc j).cancelled = false))) : InvFound σ' := by
  intro i j hij hs h1 h2 h3
  obtain ⟨a1, a2, a3⟩ := (hi j).1 h1
  obtain ⟨b1, b2 | ⟨b2, b3⟩⟩ := (hi i).2 h2 h3
  · exact (S i j hij (b1 ▸ a1 ▸ hs) b2 (by simp [RPc.sec, a2])).elim
  · exact a3 i (I i j hij (b1 ▸ a1 ▸ hs) a2 b2 b3)

theorem invFound_step {c σ a σ'} (h : Step c σ a σ') (S : InvSerial σ) (C : InvC σ) (I : InvFound σ) : InvFound σ' := by
  cases ha : a.movesRecv
  · intro i j; simp only [h.recvSame ha]; exact I i j
  cases h with
  | rGetSome k g hk hg | rGetNone k hk hg =>
    intro i j hij hs h1 h2 h3
    simp at hs h1 h2 h3 ⊢
    by_cases e1 : k = i
    · subst e1; simp at h2
    · simp [e1] at hs h2 h3
      by_cases e2 : k = j
      · subst e2
        simp at hs ⊢
        -- the registered `i` holds the shard's cancel function, which is what `k` has just looked up
        have hC := C i ⟨by revert h2; cases (σ.inc i).rpc <;> simp, Or.inl h3⟩
        rw [hs, hg] at hC
        cases hC <;> rfl
      · simp [e2] at hs h1 ⊢
        exact I i j hij hs h1 h2 h3
  | rCancelSelf k g hg he | rCancel k g hg hne =>
    intro i j hij hs h1 h2 h3
    -- `i`, settled and un-cancelled after the step, is neither `k` (at `termRm`) nor `g` (cancelled)
    have ek : ¬ k = i := by rintro rfl; simp_all
    have eg : ¬ g = i := by rintro rfl; simp_all
    simp [ek, eg] at hs h1 h2 h3 ⊢
    -- `hI2`: a registered, un-cancelled `i` of `k`'s shard is the `g` that `k` found, and `g` is cancelled now
    have hI := I i j hij; have hI2 := I i k; revert hs h1; crush
  | _ =>
    -- `rRegActive`: the receiver that settles was at `cancelSet`, inside its start-up
    all_goals first
      | exact Bool.noConfusion ha
      | (refine I.frame S fun j => ?_; simp [RPc.sec] <;> crush)

/-- A receiver `k` past the cancellation of its predecessor (`evicting`) is alone in its shard: another receiver inside a section
    contradicts the serial sections; a settled, un-cancelled one would be the predecessor that `k` found (`InvFound`) - and `k`
    is past `term`. -/
theorem recv_clash {σ : State} {k : Tok} {hold : RPc → Bool} (S : InvSerial σ) (F : InvFound σ)
    (hk : (σ.inc k).rpc.evicting = true)
    (hh : ∀ p, hold p = true → p.sec = true ∨ p.settled = true := by intro p; cases p <;> simp [RPc.sec]) :
    ∀ i, k ≠ i → (σ.inc k).shard = (σ.inc i).shard → ¬ Inc.owner hold (σ.inc i) := by
  intro i e1 hs hi
  have hst : (σ.inc k).rpc.starting = true := by revert hk; cases (σ.inc k).rpc <;> simp
  have hS := S k i e1 hs (by simp [RPc.sec, hst])
  rcases hi.2 with hc | hc
  · rcases hh _ hi.1 with h | h
    · exact hS h
    · rw [F i k (Ne.symm e1) hs.symm hst h hc] at hk; simp at hk
  · exact hS (by simp [RPc.sec, hc])

section
variable {reg : State → List (Shard × Tok)} {owns : Inc → Prop} {σ σ' : State} {k : Tok}

theorem InvOwns.frame (I : InvOwns reg owns σ) (hr : reg σ' = reg σ)
    (hi : ∀ j, owns (σ'.inc j) → (σ'.inc j).shard = (σ.inc j).shard ∧ owns (σ.inc j)) : InvOwns reg owns σ' := by
  intro i h; rw [hr, (hi i h).1]; exact I i (hi i h).2

theorem InvOwns.write (I : InvOwns reg owns σ) (w : Writes reg k σ σ')
    (hk : owns (σ'.inc k) → aget (reg σ') (σ.inc k).shard = some k)
    (ho : ∀ i, k ≠ i → (σ.inc k).shard = (σ.inc i).shard → ¬ owns (σ.inc i)) : InvOwns reg owns σ' := by
  intro i h
  by_cases e : k = i
  · subst e; rw [w.shard]; exact hk h
  · rw [w.inc i e] at h ⊢
    rw [w.reg _ fun hs => ho i e hs h]; exact I i h

theorem InvOwns.other (I : InvOwns reg owns σ) (hk : aget (reg σ) (σ.inc k).shard = some k) :
    ∀ i, k ≠ i → (σ.inc k).shard = (σ.inc i).shard → ¬ owns (σ.inc i) :=
  fun i e hs hi => e (Option.some.inj (by rw [← hk, hs, I i hi]))

end

theorem invC_step {c σ a σ'} (h : Step c σ a σ') (hc : c.cleanupUnconditional = false) (S : InvSerial σ)
    (F : InvFound σ) (I : InvC σ) : InvC σ' := by
  cases ha : a.movesRecv
  · intro i; simp only [Inc.owner, h.recvSame ha]; exact I i
  have w := @h.writes
  cases h with
  | rSetCancel k hk | rRmCancel k hk =>
    exact I.write (w _ _ _ rfl) (by simp [aget_aset]) (recv_clash S F (by simp [hk]))
  | rRmOwnCancel k hk => exact I.write (w _ _ _ rfl) (by simp) (I.other (I k (by simp [hk])))
  | _ =>
    -- `rCheckClean`: with `hc` its guard says that the receiver was not cancelled, so it owned before (both are in the context)
    all_goals first
      | exact Bool.noConfusion ha
      | (clear w; refine I.frame (by simp) fun j => ?_; simp <;> crush)

theorem invA_step {c σ a σ'} (h : Step c σ a σ') (hc : c.cleanupUnconditional = false) (S : InvSerial σ)
    (F : InvFound σ) (I : InvA σ) : InvA σ' := by
  cases ha : a.movesRecv
  · intro i; simp only [Inc.owner, h.recvSame ha]; exact I i
  have w := @h.writes
  cases h with
  | rRegActive k hk =>
    exact I.write (w _ _ _ rfl) (by simp [aget_aset]) (recv_clash S F (by simp [hk]))
  | rUnregActive k hk => exact I.write (w _ _ _ rfl) (by simp) (I.other (I k (by simp [hk])))
  | _ =>
    -- `rCheckClean`: as in `invC_step`
    all_goals first
      | exact Bool.noConfusion ha
      | (clear w; refine I.frame (by simp) fun j => ?_; simp <;> crush)

end S2S.Registry
