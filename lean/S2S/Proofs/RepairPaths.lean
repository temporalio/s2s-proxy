import S2S.Gen.RepairPaths
import S2S.Proofs.Utf8Valid
/-! C18: a pattern-driven visitor repairs every failure whose pattern it knows (every value); the per-chunk check `Chunk.ok`
lifted to the whole tree; and the finite obligations on the tables regenerated from /repo (`Gen/RepairPaths*.lean`, data only), each
one evaluation in the kernel. -/
namespace S2S.RepairPaths
open S2S.Utf8

theorem occsFrom_visitFrom (paths : List (List Step)) (pre : List Step) (v : Val) :
    occsFrom pre (visitFrom paths id pre v) = runFlat paths (occsFrom pre v) := by
  fun_induction visitFrom paths id pre v <;> simp_all [occsFrom, runFlat]

theorem repairChain_valid (c : List Bytes) (h : c.length ≤ maxFailureDepth) : chainValid (repairChain c) = true := by
  simp only [repairChain, repairFailureChainFull_eq, chainValid, List.take_of_length_le h, List.drop_of_length_le h,
    List.append_nil, List.all_map, List.all_eq_true]
  intro m _
  exact validUtf8_toValidUtf8 m

theorem repairChain_length (c : List Bytes) : (repairChain c).length = c.length := by
  simp only [repairChain, repairFailureChainFull_eq, List.length_append, List.length_map, List.length_take, List.length_drop]
  omega

theorem mem_runFlat_iff [DecidableEq P] {paths : List P} {v : List (Occ P)} {o : Occ P} :
    o ∈ runFlat paths v ↔ ∃ c, (o.1, c) ∈ v ∧ o.2 = if o.1 ∈ paths then repairChain c else c := by
  simp only [runFlat, List.mem_map]
  constructor
  · rintro ⟨o', ho', rfl⟩
    by_cases hp : o'.1 ∈ paths <;> exact ⟨o'.2, by simpa [hp] using ho', by simp [hp]⟩
  · rintro ⟨c, hc, h2⟩
    by_cases hp : o.1 ∈ paths <;> exact ⟨(o.1, c), hc, by simp [hp, Prod.ext_iff, h2]⟩

theorem Chunk.ok_iff (c : Chunk) : c.ok = true ↔
    (∀ p ∈ c.oracle, p ∈ c.measured ∨ p ∈ c.known) ∧ (∀ p ∈ c.known, p ∈ c.oracle ∧ p ∉ c.measured) := by
  simp [Chunk.ok]

/-- `Chunk.ok` looks every oracle path up in `measured`: quadratic, and slow to evaluate on chunks of 200 paths. The generator
    (`go/eng/repairpaths_extract_test.go`) emits `measured` in the oracle's order, so without recorded findings one pass
    (`isSublist`) answers; any other table is left to `Chunk.ok` itself. -/
theorem all_ok_of_pass (cs : List Chunk)
    (h : cs.all (fun c => c.known.isEmpty && c.oracle.isSublist c.measured || c.ok) = true) : cs.all Chunk.ok = true := by
  refine List.all_eq_true.2 fun c hc => ?_
  rcases Bool.or_eq_true_iff.1 (List.all_eq_true.1 h c hc) with hf | hs
  · obtain ⟨hk, hsub⟩ := Bool.and_eq_true_iff.1 hf
    rw [Chunk.ok_iff, List.isEmpty_iff.1 hk]
    exact ⟨fun p hp => .inl ((List.isSublist_iff_sublist.1 hsub).subset hp), nofun⟩
  · exact hs

theorem ok_of_chunks (cs : List Chunk) (h : cs.all Chunk.ok = true) :
    (∀ rp ∈ oracleOf cs, rp ∈ measuredOf cs ∨ rp ∈ knownOf cs) ∧ ∀ rp ∈ knownOf cs, rp ∈ oracleOf cs := by
  have hok c hc := (Chunk.ok_iff c).1 (List.all_eq_true.mp h c hc)
  simp only [oracleOf, measuredOf, knownOf, List.mem_flatMap]
  exact ⟨fun rp ⟨c, hc, hin⟩ => ((hok c hc).1 rp hin).imp (⟨c, hc, ·⟩) (⟨c, hc, ·⟩),
    fun rp ⟨c, hc, hin⟩ => ⟨c, hc, ((hok c hc).2 rp hin).1⟩⟩

/-- `Chunk.ok` says this per chunk only; a path recorded in one chunk could be measured in another -/
theorem known_not_measured_of_all (cs : List Chunk)
    (h : (knownOf cs).all (fun p => !(measuredOf cs).contains p) = true) :
    ∀ rp ∈ knownOf cs, rp ∉ measuredOf cs := by
  intro rp hrp hm
  have := List.all_eq_true.mp h rp hrp
  simp [hm] at this

end S2S.RepairPaths

namespace S2S.Gen.RepairPaths
open S2S.RepairPaths

theorem chunks_ok : chunks.all Chunk.ok = true := all_ok_of_pass chunks (by decide +kernel)

theorem known_not_measured : (knownOf chunks).all (fun p => !(measuredOf chunks).contains p) = true := by decide +kernel

theorem oracle_exhaustive : typeRecursionCuts = 0 := by decide

/-- every root the property quantifies over reaches a failure; the generator lists them in the oracle's order, so one pass
    finds them all (a look-up per root is slow to evaluate) -/
theorem property_roots_reach : propertyRoots.isSublist ((oracleOf chunks).map (·.1)) = true := by decide +kernel

end S2S.Gen.RepairPaths
