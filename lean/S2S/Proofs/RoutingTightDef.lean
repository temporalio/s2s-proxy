import S2S.Proofs.RoutingFaultBasic
import S2S.Spec.RoutingFaultsTight
/-!
The invariant for the TIGHT form of "C04 modulo the recorded findings" (`Spec/RoutingFaultsTight.lean`).

`InvT` = `InvF` of the loose statement (over the `Ghost` part of the `GhostT`)
  + every queued task message carries its largest id last (so `msgHigh` bounds the message)
  + `PairT`: every value of source `s` that target `t` holds or has produced is SAFE for the tasks of `s` that were LOST
    with an earlier incarnation of `t` and have NOT been passed: each of them below the value is confirmed (by some
    incarnation of `t`); and such a task keeps `t` in `ackByTarget`.
-/
namespace S2S.Routing

def LastMax (ids : List Int) : Prop := ∀ o ∈ ids, o ≤ ids.getLast?.getD 0

theorem lastMax_of_pairwise {l : List Int} (h : l.Pairwise (· < ·)) : LastMax l := by
  intro o ho
  rcases List.eq_nil_or_concat l with rfl | ⟨l', a, rfl⟩
  · cases ho
  · rw [List.concat_eq_append] at h ho ⊢
    rw [List.getLast?_concat]
    rcases List.mem_append.1 ho with ho | ho
    · exact Int.le_of_lt ((List.pairwise_append.1 h).2.2 o ho a (List.mem_singleton_self a))
    · rw [List.mem_singleton.1 ho]; exact Int.le_refl _

def PcS : RecvPc → Prop
  | .deliver pending => ∀ t ids, aget pending t = some ids → LastMax ids
  | _ => True

def SrcS (x : Source) : Prop := PcS x.pc

def MsgS : Msg → Prop
  | .tasks _ ids => LastMax ids
  | .wm _ _ => True

def TgtS (tg : Target) : Prop := ∀ m ∈ tg.sendChan, MsgS m

/-- tasks of `s` owned by `t`, received by the current incarnation of `s` only, handed to an incarnation of `t` that
    broke, and not passed since -/
def Lost (γ : GhostT) (s : SId) (t : TId) (x : Source) (id : Int) : Prop :=
  Cur γ.g s t x id ∧ (s, id) ∈ γ.g.lostOf t ∧ (s, id) ∉ γ.passedOf t

structure PairT (L : Int → Prop) (s : SId) (t : TId) (x : Source) (tg : Target) : Prop where
  ring_lost : ∀ p o, (p, s, o) ∈ tg.ring → SafeN L s tg o
  todo_safe : ∀ todo d r, tg.ackPc = .forwarding todo d r → ∀ v, (s, v) ∈ todo → SafeN L s tg v
  prev_safe : ∀ v, (s, v) ∈ tg.prevAck → SafeN L s tg v
  chan_safe : ∀ v, (t, v) ∈ x.ackChan → SafeN L s tg v
  abt_safe : ∀ v, (t, v) ∈ x.ackByTarget → SafeN L s tg v
  last_safe : ∀ a, x.lastSentAck = some a → SafeN L s tg a
  seeded : ∀ id, L id → (aget x.ackByTarget t).isSome = true

abbrev Tight (σ : State) (γ : GhostT) : Prop :=
  Holds (fun _ => SrcS) (fun _ => TgtS) (fun s t x => PairT (Lost γ s t x) s t x) σ

structure InvT (σ : State) (γ : GhostT) : Prop where
  f : InvF σ γ.g
  tight : Tight σ γ

theorem PairT.vals {L : Int → Prop} {s : SId} {t : TId} {x : Source} {tg : Target} (h : PairT L s t x tg) :
    AckVals L (SafeN L s tg) s t x tg := ⟨h.todo_safe, h.prev_safe, h.chan_safe, h.abt_safe, h.last_safe, h.seeded⟩

theorem AckVals.toT {L : Int → Prop} {s : SId} {t : TId} {x : Source} {tg : Target}
    (f : AckVals L (SafeN L s tg) s t x tg) (hr : ∀ p o, (p, s, o) ∈ tg.ring → SafeN L s tg o) : PairT L s t x tg :=
  ⟨hr, f.todo, f.prev, f.chan, f.abt, f.last, f.seeded⟩

theorem PairT.mono {L L' : Int → Prop} {s : SId} {t : TId} {x : Source} {tg : Target}
    (h : PairT L s t x tg) (hL : ∀ id, L' id → L id) : PairT L' s t x tg :=
  (h.vals.imp (fun _ hv => hv.mono hL (fun _ ha => ha)) hL).toT
    (fun p o hm => (h.ring_lost p o hm).mono hL (fun _ ha => ha))

theorem PairT.congr {L : Int → Prop} {s : SId} {t : TId} {x x' : Source} {tg tg' : Target}
    (h : PairT L s t x tg)
    (ring : tg'.ring = tg.ring := by rfl) (ackPc : tg'.ackPc = tg.ackPc := by rfl)
    (prevAck : tg'.prevAck = tg.prevAck := by rfl) (confirmed : tg'.confirmed = tg.confirmed := by rfl)
    (ackChan : x'.ackChan = x.ackChan := by rfl) (ackByTarget : x'.ackByTarget = x.ackByTarget := by rfl)
    (lastSentAck : x'.lastSentAck = x.lastSentAck := by rfl) : PairT L s t x' tg' := by
  have hs : ∀ v, SafeN L s tg v → SafeN L s tg' v := fun _ hv => hv.mono (fun _ hl => hl) (fun _ hc => confirmed ▸ hc)
  exact (h.vals.imp hs (fun _ hl => hl) ackPc prevAck ackChan ackByTarget lastSentAck confirmed).toT
    (ring ▸ fun p o hm => hs o (h.ring_lost p o hm))

theorem PairT.empty {L : Int → Prop} (hL : ∀ id, ¬ L id) (s : SId) (t : TId) (x : Source) (tg : Target) :
    PairT L s t x tg := by
  have hs : ∀ v, SafeN L s tg v := fun v id hl _ => absurd hl (hL id)
  exact ⟨fun _ o _ => hs o, fun _ _ _ _ v _ => hs v, fun v _ => hs v, fun v _ => hs v, fun v _ => hs v,
    fun a _ => hs a, fun id hl => absurd hl (hL id)⟩

theorem Lost.of_eq {γ γ' : GhostT} {s : SId} {t : TId} {x x' : Source} {id : Int}
    (h : Lost γ' s t x' id) (hr : x'.received = x.received := by rfl) (hb : ebase γ'.g s x' = ebase γ.g s x := by rfl)
    (hl : γ'.g.lostOf t = γ.g.lostOf t := by rfl) (hp : γ'.passedOf t = γ.passedOf t := by rfl) : Lost γ s t x id :=
  ⟨h.1.of_eq hr hb, hl ▸ h.2.1, hp ▸ h.2.2⟩

/-- the ghost after `take t` of message `m`: the lost tasks of its source below `msgHigh m` are passed -/
def GhostT.pass (γ : GhostT) (t : TId) (m : Msg) : GhostT :=
  { g := γ.g
    passed := aset γ.passed t
      (γ.passedOf t ++ (γ.g.lostOf t).filter fun p => p.1 == msgSrc m && p.2 < msgHigh m) }

theorem mem_passedOf_pass {γ : GhostT} {t t' : TId} {m : Msg} {q : SId × Int} :
    q ∈ (γ.pass t m).passedOf t' ↔
      q ∈ γ.passedOf t' ∨ t' = t ∧ q ∈ γ.g.lostOf t ∧ q.1 = msgSrc m ∧ q.2 < msgHigh m := by
  simp only [GhostT.pass, GhostT.passedOf, getD_aget_aset]
  split
  · next e => simp only [e, List.mem_append, List.mem_filter, Bool.and_eq_true, beq_iff_eq, decide_eq_true_eq, true_and]
  · next e => simp only [e, false_and, or_false]

/-- the ghost after an enabled step: the body of `GhostT.next`, as `Ghost.upd` is that of `Ghost.next` -/
def GhostT.upd (σ : State) (γ : GhostT) : Act → GhostT
  | .take t =>
    match (σ.tgt t).sendChan with
    | [] => γ
    | m :: _ => γ.pass t m
  | a => { g := γ.g.upd σ a, passed := γ.passed }

theorem GhostT.upd_g (σ : State) (γ : GhostT) (a : Act) : (γ.upd σ a).g = γ.g.upd σ a := by
  cases a with
  | take t => simp only [GhostT.upd]; split <;> rfl
  | _ => rfl

theorem GhostT.upd_cases (σ : State) (γ : GhostT) (a : Act) :
    (γ.upd σ a).passedOf = γ.passedOf ∨ ∃ t m, γ.upd σ a = γ.pass t m := by
  cases a with
  | take t =>
    simp only [GhostT.upd]
    split
    · exact .inl rfl
    · exact .inr ⟨_, _, rfl⟩
  | _ => exact .inl rfl

theorem GhostT.upd_passed_mono (σ : State) (γ : GhostT) (a : Act) (t : TId) {q : SId × Int}
    (h : q ∈ γ.passedOf t) : q ∈ (γ.upd σ a).passedOf t := by
  rcases GhostT.upd_cases σ γ a with e | ⟨t0, m, e⟩ <;> rw [e]
  · exact h
  · exact mem_passedOf_pass.2 (.inl h)

theorem ghostT_next_of_step {c : Cfg} {σ σ' : State} (γ : GhostT) {a : Act} (h : step c σ a = some σ') :
    γ.next c σ a = γ.upd σ a := by
  unfold GhostT.next
  rw [h]
  simp only
  rw [ghost_next_of_step γ.g h]
  cases a <;> rfl

theorem ghostT_next_none {c : Cfg} {σ : State} (γ : GhostT) {a : Act} (h : step c σ a = none) :
    γ.next c σ a = γ := by
  unfold GhostT.next; rw [h]

theorem invT_init (ns nt : Nat) : InvT (State.init ns nt) {} :=
  ⟨invF_init ns nt, Holds.init ns nt (fun _ => trivial) (fun _ => nofun)
    (fun s t => .empty (fun _ h => by cases h.1.1) s t _ _)⟩

theorem tight_setTgt {σ : State} {γ : GhostT} (H : Tight σ γ) (t : TId) (tg' : Target) (hT : TgtS tg')
    (ring : tg'.ring = (σ.tgt t).ring := by rfl) (ackPc : tg'.ackPc = (σ.tgt t).ackPc := by rfl)
    (prevAck : tg'.prevAck = (σ.tgt t).prevAck := by rfl)
    (confirmed : tg'.confirmed = (σ.tgt t).confirmed := by rfl) : Tight (σ.setTgt t tg') γ :=
  H.setTgt hT (fun s => (H.pair s t).congr ring ackPc prevAck confirmed)

theorem PairT.src_congr {γ : GhostT} {s : SId} {t : TId} {x x' : Source} {tg tg' : Target}
    (h : PairT (Lost γ s t x) s t x tg) (received : x'.received = x.received := by rfl)
    (active : x'.active = x.active := by rfl)
    (ring : tg'.ring = tg.ring := by rfl) (ackPc : tg'.ackPc = tg.ackPc := by rfl)
    (prevAck : tg'.prevAck = tg.prevAck := by rfl) (confirmed : tg'.confirmed = tg.confirmed := by rfl)
    (ackChan : x'.ackChan = x.ackChan := by rfl) (ackByTarget : x'.ackByTarget = x.ackByTarget := by rfl)
    (lastSentAck : x'.lastSentAck = x.lastSentAck := by rfl) : PairT (Lost γ s t x') s t x' tg' :=
  (h.congr ring ackPc prevAck confirmed ackChan ackByTarget lastSentAck).mono
    (fun _ hl => hl.of_eq received (by unfold ebase; rw [active, received]))

theorem PairT.tick {L : Int → Prop} {s : SId} {t : TId} {x : Source} {tg : Target}
    (h : PairT L s t x tg) : PairT L s t (tickSrc x) (tickTgt tg) := by
  rw [tickSrc_eq, tickTgt_eq]; exact h.congr

theorem safeN_le {L : Int → Prop} {s : SId} {tg : Target} {v v' : Int} (h : SafeN L s tg v) (hle : v' ≤ v) :
    SafeN L s tg v' := fun id hl hlt => h id hl (Int.lt_of_lt_of_le hlt hle)

end S2S.Routing
