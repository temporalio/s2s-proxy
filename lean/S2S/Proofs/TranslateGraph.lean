import S2S.Gen.TGBase
import S2S.Spec.Translate
/-!
The finite obligations of C12, C13 and C14 on the type graph of the current tree.  `Gen/TGBase.lean` and
`Gen/TGData*.lean` are data only, regenerated from /repo on every run; each obligation is one evaluation in the
kernel over the whole table, so it is re-checked whenever the data change.
-/
namespace S2S.Translate

/-- `idsOK` in one pass (`idsOK` itself indexes the table once per position, which is quadratic under kernel
    evaluation) -/
theorem idsOK_of_zipIdx (ts : List TypeD) (h : ts.zipIdx.all (fun p => p.1.id == p.2) = true) : idsOK ts = true := by
  unfold idsOK
  rw [List.all_eq_true] at h ⊢
  intro i hi
  have hi := List.mem_range.1 hi
  rw [List.getElem?_eq_getElem hi]
  exact h (ts[i], i) (List.mem_zipIdx_iff_getElem?.2 (List.getElem?_eq_getElem hi))

/-- converse coverage: a plain string field whose Go name is in namespaceFieldNames is a namespace-name field -/
def typeExact (tb : Tables) (t : TypeD) : Bool :=
  t.fields.all (fun f => !(f.goString && tb.ns.contains f.go) || f.oracleNs)

/-- search-attribute coverage: every search-attribute container has a Go name in searchAttributeFieldNames -/
def typeSA (tb : Tables) (t : TypeD) : Bool :=
  t.fields.all (fun f => !f.sa || tb.sa.contains f.go)

end S2S.Translate

namespace S2S.Gen.TG
open S2S.Translate

theorem ids_ok : idsOK graph.types = true := idsOK_of_zipIdx _ (by decide +kernel)

theorem skipAttr_in_mask : tables.skipAttr.all skipMask.testBit = true := by decide +kernel

theorem types_ok : graph.types.all (typeOK graph tables skipMask) = true := by decide +kernel

theorem covers : Covers graph tables skipMask = true := by
  unfold Covers; rw [ids_ok, skipAttr_in_mask, types_ok]; rfl

theorem types_exact : graph.types.all (typeExact tables) = true := by decide +kernel

theorem types_sa : graph.types.all (typeSA tables) = true := by decide +kernel

end S2S.Gen.TG
