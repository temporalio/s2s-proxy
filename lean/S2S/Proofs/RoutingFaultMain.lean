import S2S.Proofs.RoutingFaultHandoff
import S2S.Proofs.RoutingFaultTake
import S2S.Proofs.RoutingFaultRecv
import S2S.Proofs.RoutingFaultBreak
/-!
C04 modulo the recorded findings: in every run (stream breaks and re-opens at any position) that satisfies `EnvOKF`,
every acknowledgement sent upstream covers only tasks that are confirmed or excused.

Proof: `InvF` (S2S/Proofs/RoutingFaultDef.lean) holds initially and is preserved by EVERY step, together with
the ghost bookkeeping; every ack a step sends equals the post-state's `lastSentAck` (`step_acksAreLast`, which
already covers the fault steps), whose source is active, and `last_safe` covers all needed tasks — a task that
is not needed is excused.

`step_invF` is one `cases` on `Step`; a case that is more than a line is a lemma `invF_<action>` in the file named after
the step (the acknowledgement path: in `RoutingFaultBasic`, beside `AckVals`).
-/
namespace S2S.Routing

-- `σ.src s`, `σ.tgt t` stay folded: a failed unification of a changed record with them otherwise unfolds the lookup
attribute [local irreducible] State.src State.tgt in
/-- the configuration matters only in that the receiver seeds `ackByTarget` (`recv`) -/
theorem step_invF {c : Cfg} (hc : c.seedAcks = true) {σ σ' : State} {γ : Ghost} (hI : InvF σ γ) {a : Act}
    (henv : StepEnvF σ γ a) (h : step c σ a = some σ') : InvF σ' (γ.upd σ a) := by
  cases Step.of_step h with
  | recvWm | recvTasks => exact step_invF_recv hc hI henv.1 henv.2 (Step.of_step h)
  | bcastSend | bcastDrop => exact invF_bcastStep hI (Step.of_step h)
  | deliver => exact invF_deliver hI (Step.of_step h)
  | take => exact invF_take hI (Step.of_step h)
  | emit t h0 | startTgt t h0 | replayDone t h0 | replaySkip t _ h0 =>
    have hreg := (hI.tgt t).registered_of_ne_reset (by intro e; rw [e] at h0; cases h0)
    exact hI.setTgt ((hI.tgt t).of_reg hreg) (fun s => (hI.pair s t).tgt_congr)
  | tack t w hst =>
    have hreg := (hI.tgt t).registered_of_apply_ne Target.started (hst ▸ nofun)
    exact hI.setTgt ((hI.tgt t).of_reg hreg) (fun s => (hI.pair s t).tack w _)
  | ackFwd => exact invF_ackFwd hI (Step.of_step h)
  | ackFin t hpc =>
    have hreg := (hI.tgt t).registered_of_apply_ne Target.ackPc (hpc ▸ nofun)
    refine hI.setTgt ((hI.tgt t).of_reg hreg) (fun s => ?_)
    have h := hI.pair s t
    exact { h with
      ring_ok := fun p o hm => h.ring_ok p o (List.mem_of_mem_drop hm)
      ring_le := fun p o hm => h.ring_le p o (List.mem_of_mem_drop hm)
      todo_safe := nofun }
  | rackQuiet s hact hch =>
    exact hI.setSrc ((hI.src s).of_pc (hI.src s).wm_pend (hI.src s).bcast_le)
      (fun t => (hI.pair s t).of_vals ((hI.pair s t).vals.rack (fun _ hv => hv.1) hch _ (Or.inl rfl)))
  | rackSend s hact hch hm =>
    exact hI.setSrc
      ((hI.src s).rack ((hI.pair s _).chan_safe _ (hch ▸ List.mem_cons_self)).2 hact hm (clampAck_le _ _))
      (fun t => (hI.pair s t).of_vals
        ((hI.pair s t).vals.rack (fun _ hv => hv.1) hch _ (Or.inr ⟨_, _, rfl, hm, clampAck_le _ _⟩)))
  | openSrc => exact invF_openSrc hI (Step.of_step h)
  | openTgt t hreg =>
    refine hI.setTgt ⟨nofun, nofun, nofun, nofun⟩ (fun s => ?_)
    have h := hI.pair s t
    rw [(hI.tgt t).unreg hreg] at h
    exact h.tgt_congr
  | replaySend t s htodo _ hwm => exact invF_replaySend hI htodo hwm
  | tick =>
    exact hI.tick (fun _ _ => SrcF.tick) (fun _ _ => TgtF.tick)
      (fun _ _ _ _ hp => hp.tick.mono (fun _ hn => ⟨hn.1.of_tick, hn.2⟩) (Int.le_refl _))
  | breakTgt t hreg => exact invF_breakTgt hI hreg
  | breakSrc s =>
    exact hI.setSrc (hI.src s).broken (fun t => (hI.pair s t).src_reset (fun id hn => cur_inactive rfl id hn.1) _)

theorem invF_lastAck_safe {σ : State} {γ : Ghost} (hI : InvF σ γ) {s : SId} {v : Int}
    (hlast : (σ.src s).lastSentAck = some v) {p : Int × TId} (hp : p ∈ (σ.src s).received) (hlt : p.1 < v) :
    Confirmed σ s p.1 p.2 ∨ Excused σ γ s p := by
  have hb : ebase γ s (σ.src s) = γ.baseOf s := by
    unfold ebase; rw [if_pos ((hI.src s).last_active v hlast)]
  exact Decidable.or_iff_not_imp_right.2 fun he =>
    (hI.pair s p.2).last_safe v hlast p.1 ⟨⟨hp, fun h => he (.inl (hb ▸ h))⟩, fun h => he (.inr h)⟩ hlt

theorem acks_safeF_of_inv {c : Cfg} (hc : c.seedAcks = true) (σ : State) (γ : Ghost) (hI : InvF σ γ) (acts : List Act)
    (henv : EnvOKF c σ γ acts) : AcksSafeFAlong c σ γ acts := by
  induction acts generalizing σ γ with
  | nil => trivial
  | cons a rest ih =>
    unfold EnvOKF at henv
    unfold AcksSafeFAlong
    cases hstep : step c σ a with
    | none =>
      rw [hstep, ghost_next_none γ hstep] at henv
      exact ih σ γ hI henv.2
    | some σ' =>
      rw [hstep] at henv
      have hI' : InvF σ' (γ.next c σ a) := ghost_next_of_step γ hstep ▸ step_invF hc hI henv.1 hstep
      exact ⟨fun s _ v hv _ => invF_lastAck_safe hI' (step_acksAreLast hstep s v hv), ih σ' _ hI' henv.2⟩

/-- the one thing the proofs use of the current configuration: they hold for every channel capacity -/
theorem cur_seedAcks : Cfg.cur.seedAcks = true := rfl

end S2S.Routing
