import S2S.Proofs.Observer
import S2S.Proofs.Shard
/-!
Concurrency clause of C20 (idea and side conditions: header of `Props/C20C.lean`): the vocabulary of its statements, and
the counter list as a finite map - what `addCounter` does to membership, order, well-formedness and `lookup`; a sorted
zero-free list is determined by its lookups.
-/
namespace S2S.Observer
open S2S.Shard

/-- a sequence of atomic `report` steps; `none` if any step blocks on a held lock -/
def reports : Obs → List (Int × Int) → Option Obs
  | o, [] => some o
  | o, (idx, v) :: rest =>
    match report o idx v with
    | none => none
    | some (o', _) => reports o' rest

/-- `value` is an int32 (what the Go signature `ReportStreamValue(idx int32, value int32)` guarantees) -/
def IsInt32 (v : Int) : Prop := -2147483648 ≤ v ∧ v < 2147483648

instance (v : Int) : Decidable (IsInt32 v) := by unfold IsInt32; infer_instance

/-- the index passes the `idx < 0 || idx > maxObservedStreamIndex` guard -/
def Accepted (idx : Int) : Prop := 0 ≤ idx ∧ idx ≤ maxObservedStreamIndex

instance (idx : Int) : Decidable (Accepted idx) := by unfold Accepted; infer_instance

/-- every report that is not rejected by the index guard carries an int32 value -/
def ValsInt32 (l : List (Int × Int)) : Prop := ∀ p ∈ l, Accepted p.1 → IsInt32 p.2

instance (l : List (Int × Int)) : Decidable (ValsInt32 l) := by unfold ValsInt32; infer_instance

/-- well-formed counter list: strictly sorted by index, no zero values, int32 values -/
def CWF (c : List (Nat × Int)) : Prop :=
  c.Pairwise (fun a b => a.1 < b.1) ∧ ∀ p ∈ c, p.2 ≠ 0 ∧ IsInt32 p.2

/-- well-formed observer state: well-formed `counters`, every index inside the slice -/
def Obs.WF (o : Obs) : Prop := CWF o.counters ∧ ∀ p ∈ o.counters, p.1 < o.len

/-- the counter of index `i` (0 when absent) -/
def val (c : List (Nat × Int)) (i : Nat) : Int := (c.lookup i).getD 0

/-- sum (exact, in `Int`) of the values reported for index `i` -/
def sumAt (i : Nat) (l : List (Int × Int)) : Int :=
  ((l.filter (fun p => p.1 = (i : Int))).map (·.2)).sum

theorem wrap32_isInt32 (x : Int) : IsInt32 (wrap32 x) := by
  unfold IsInt32 wrap32 two31 two32; omega

theorem wrap32_of_isInt32 {x : Int} (h : IsInt32 x) : wrap32 x = x := wrap32_id x h.1 h.2

theorem wrap32_add_assoc (a v s : Int) : wrap32 (wrap32 (a + v) + s) = wrap32 (a + (v + s)) := by
  -- the inner `- two31` meets the outer `+ two31`; then the outer `%` absorbs the inner one
  unfold wrap32
  rw [Int.add_right_comm _ s two31, Int.sub_add_cancel, Int.emod_add_emod, Int.add_right_comm _ two31 s, Int.add_assoc a v s]

theorem lookup_none_of_lt (c : List (Nat × Int)) (i : Nat) (h : ∀ p ∈ c, i < p.1) : c.lookup i = none :=
  List.lookup_eq_none_iff.2 fun p hp => by simpa using Nat.ne_of_lt (h p hp)

theorem mem_of_lookup {c : List (Nat × Int)} {i : Nat} {x : Int} (h : c.lookup i = some x) : (i, x) ∈ c := by
  obtain ⟨l₁, l₂, rfl, _⟩ := List.lookup_eq_some_iff.1 h
  simp

theorem lookup_of_mem {c : List (Nat × Int)} (hc : c.Pairwise (fun a b => a.1 < b.1)) {i : Nat} {x : Int}
    (h : (i, x) ∈ c) : c.lookup i = some x := by
  obtain ⟨l₁, l₂, rfl⟩ := List.append_of_mem h
  exact List.lookup_eq_some_iff.2 ⟨l₁, l₂, rfl, fun p hp => by
    simpa using Nat.ne_of_gt ((List.pairwise_append.1 hc).2.2 p hp _ List.mem_cons_self)⟩

theorem sorted_ext (c₁ c₂ : List (Nat × Int))
    (h₁ : c₁.Pairwise (fun a b => a.1 < b.1)) (h₂ : c₂.Pairwise (fun a b => a.1 < b.1))
    (h : ∀ k, c₁.lookup k = c₂.lookup k) : c₁ = c₂ := by
  have nd {c : List (Nat × Int)} (hc : c.Pairwise (fun a b => a.1 < b.1)) : c.Nodup :=
    hc.imp (S := (· ≠ ·)) fun hab e => Nat.lt_irrefl _ (e ▸ hab)
  refine List.Perm.eq_of_pairwise (fun a b _ _ hab hba => absurd hab (Nat.lt_asymm hba)) h₁ h₂ ?_
  exact (List.perm_ext_iff_of_nodup (nd h₁) (nd h₂)).2 fun p =>
    ⟨fun hp => mem_of_lookup (h p.1 ▸ lookup_of_mem h₁ hp), fun hp => mem_of_lookup (h p.1 ▸ lookup_of_mem h₂ hp)⟩

/- The cases of `addCounter` in the order of its definition: the empty list (`v = 0` or not), the head has key `i`
   (the sum wraps to 0 or not), `i` is below the head's key (`v = 0` or not), `i` is beyond the head. -/
theorem addCounter_mem (c : List (Nat × Int)) (i : Nat) (v : Int) (p : Nat × Int)
    (hp : p ∈ addCounter c i v) :
    p ∈ c ∨ (p.1 = i ∧ p.2 ≠ 0 ∧ (p.2 = v ∨ ∃ x, p.2 = wrap32 (x + v))) := by
  fun_induction addCounter c i v with
  | case1 | case3 | case5 => simp_all
  | case2 i v hv => exact .inr (by simp_all)
  | case4 x rest i v hw =>
    rcases List.mem_cons.1 hp with rfl | h
    · exact .inr ⟨rfl, hw, .inr ⟨x, rfl⟩⟩
    · exact .inl (List.mem_cons_of_mem _ h)
  | case6 j x rest i v _ _ hv =>
    rcases List.mem_cons.1 hp with rfl | h
    · exact .inr ⟨rfl, hv, .inl rfl⟩
    · exact .inl h
  | case7 j x rest i v _ _ ih =>
    rcases List.mem_cons.1 hp with rfl | h
    · exact .inl List.mem_cons_self
    · exact (ih h).imp_left (List.mem_cons_of_mem _)

theorem addCounter_sorted (c : List (Nat × Int)) (i : Nat) (v : Int)
    (h : c.Pairwise (fun a b => a.1 < b.1)) :
    (addCounter c i v).Pairwise (fun a b => a.1 < b.1) := by
  fun_induction addCounter c i v with
  | case1 | case2 => simp
  | case3 => exact h.of_cons
  | case4 => exact List.pairwise_cons.2 (List.pairwise_cons.1 h)
  | case5 => exact h
  | case6 j x rest i v _ hlt =>
    refine List.pairwise_cons.2 ⟨fun p hp => ?_, h⟩
    rcases List.mem_cons.1 hp with rfl | hp
    · exact hlt
    · exact Nat.lt_trans hlt ((List.pairwise_cons.1 h).1 p hp)
  | case7 j x rest i v hne hnlt ih =>
    rw [List.pairwise_cons] at h
    refine List.pairwise_cons.2 ⟨fun p hp => ?_, ih h.2⟩
    rcases addCounter_mem _ _ _ _ hp with hp | ⟨hp, _⟩
    · exact h.1 p hp
    · show j < p.1
      omega

theorem addCounter_cwf (c : List (Nat × Int)) (i : Nat) (v : Int) (h : CWF c) (hv : IsInt32 v) :
    CWF (addCounter c i v) := by
  refine ⟨addCounter_sorted c i v h.1, ?_⟩
  intro p hp
  rcases addCounter_mem _ _ _ _ hp with hp | ⟨_, hnz, hp | ⟨x, hp⟩⟩
  · exact h.2 p hp
  · exact ⟨hnz, hp ▸ hv⟩
  · exact ⟨hnz, hp ▸ wrap32_isInt32 _⟩

theorem addCounter_lookup_eq (c : List (Nat × Int)) (i : Nat) (v : Int)
    (h : c.Pairwise (fun a b => a.1 < b.1)) :
    (addCounter c i v).lookup i =
      (match c.lookup i with
       | none => if v = 0 then none else some v
       | some x => if wrap32 (x + v) = 0 then none else some (wrap32 (x + v))) := by
  fun_induction addCounter c i v with
  | case1 | case2 => simp [*]
  | case3 x rest i v | case4 x rest i v =>
    simp [lookup_none_of_lt rest i (List.pairwise_cons.1 h).1, *]
  | case5 j x rest i hne hlt | case6 j x rest i v hne hlt =>
    have hij : (i == j) = false := by simp; omega
    have hr := lookup_none_of_lt rest i fun p hp => Nat.lt_trans hlt ((List.pairwise_cons.1 h).1 p hp)
    simp [List.lookup_cons, *]
  | case7 j x rest i v hne _ ih =>
    have hij : (i == j) = false := by simp; omega
    simpa only [List.lookup_cons, hij] using ih h.of_cons

theorem val_addCounter_ne (c : List (Nat × Int)) (i : Nat) (v : Int) (j : Nat) (hj : j ≠ i) :
    val (addCounter c i v) j = val c j := by
  unfold val; rw [addCounter_lookup_ne c i v j hj]

theorem val_isInt32 (c : List (Nat × Int)) (h : CWF c) (i : Nat) : IsInt32 (val c i) := by
  unfold val
  cases hl : c.lookup i with
  | none => simp [IsInt32]
  | some x => exact (h.2 _ (mem_of_lookup hl)).2

theorem val_addCounter_eq (c : List (Nat × Int)) (i : Nat) (v : Int) (h : c.Pairwise (fun a b => a.1 < b.1))
    (hv : IsInt32 v) :
    val (addCounter c i v) i = wrap32 (val c i + v) := by
  unfold val
  rw [addCounter_lookup_eq c i v h]
  cases c.lookup i <;> simp only [Option.getD_none, Option.getD_some, Int.zero_add, wrap32_of_isInt32 hv] <;> split <;> simp [*]

theorem lookup_of_val (c : List (Nat × Int)) (h : CWF c) (i : Nat) :
    c.lookup i = if val c i = 0 then none else some (val c i) := by
  unfold val
  cases hl : c.lookup i with
  | none => simp
  | some x => simp [(h.2 _ (mem_of_lookup hl)).1]

theorem cwf_ext (c₁ c₂ : List (Nat × Int)) (h₁ : CWF c₁) (h₂ : CWF c₂)
    (h : ∀ k, val c₁ k = val c₂ k) : c₁ = c₂ :=
  sorted_ext c₁ c₂ h₁.1 h₂.1 (fun k => by rw [lookup_of_val c₁ h₁, lookup_of_val c₂ h₂, h k])

theorem cwf_nil_of_val (c : List (Nat × Int)) (h : CWF c) (hz : ∀ k, val c k = 0) : c = [] :=
  cwf_ext c [] h ⟨List.Pairwise.nil, fun _ hp => by cases hp⟩ (fun k => by rw [hz k]; rfl)

end S2S.Observer
