import S2S.Model.NameMap
/-! C13 / C14: `lookup` and `translateName` on an association list; `newBiMap` accepts exactly the one-to-one lists, and
    on those translating there and back is the identity (`translateName_inverse`). -/
namespace S2S.NameMap
variable {α : Type} [DecidableEq α]

theorem lookup_cons (p : α × α) (m : List (α × α)) (k : α) :
    lookup (p :: m) k = if p.1 = k then some p.2 else lookup m k := by
  unfold lookup
  rw [List.find?_cons]
  by_cases h : p.1 = k <;> simp [h]

theorem lookup_none (m : List (α × α)) (s : α) (h : ∀ p ∈ m, p.1 ≠ s) : lookup m s = none := by
  rw [lookup, List.find?_eq_none.2 fun p hp hd => h p hp (of_decide_eq_true hd)]; rfl

theorem lookup_eq_some_of_mem (m : List (α × α)) (a b : α) (hm : (a, b) ∈ m) (hk : (m.map (·.1)).Nodup) :
    lookup m a = some b := by
  induction m with
  | nil => cases hm
  | cons p m ih =>
    rw [List.map_cons, List.nodup_cons] at hk
    rw [lookup_cons]
    rcases List.mem_cons.1 hm with h | h
    · subst h; simp
    · rw [if_neg fun he : p.1 = a => hk.1 (he ▸ List.mem_map.2 ⟨(a, b), h, rfl⟩)]
      exact ih h hk.2

theorem mem_of_lookup_eq_some (m : List (α × α)) (s t : α) (h : lookup m s = some t) : (s, t) ∈ m := by
  obtain ⟨⟨a, b⟩, hf, rfl⟩ := Option.map_eq_some_iff.1 h
  have hs : a = s := by simpa using List.find?_some hf
  exact hs ▸ List.mem_of_find?_eq_some hf

theorem translateName_unmapped (m : List (α × α)) (s : α) (h : ∀ p ∈ m, p.1 ≠ s) : translateName m s = s := by
  unfold translateName
  rw [lookup_none m s h]
  rfl
theorem translateName_mapped (m : List (α × α)) (a b : α) (hm : (a, b) ∈ m) (hk : (m.map (·.1)).Nodup) :
    translateName m a = b := by
  unfold translateName
  rw [lookup_eq_some_of_mem m a b hm hk]
  rfl
theorem newBiMap_eq (pairs m : List (α × α)) (h : newBiMap pairs = some m) : m = pairs := by
  revert m
  fun_induction newBiMap pairs <;> intro m h <;> cases h
  · rfl
  · rename_i hm _ ih
    rw [ih _ hm]
theorem newBiMap_isSome_iff (pairs : List (α × α)) :
    (newBiMap pairs).isSome = true ↔ (pairs.map (·.1)).Nodup ∧ (pairs.map (·.2)).Nodup := by
  induction pairs with
  | nil => simp [newBiMap]
  | cons p rest ih =>
    obtain ⟨k, v⟩ := p
    cases hr : newBiMap rest with
    | none =>
      rw [hr] at ih
      simp only [newBiMap, hr, List.map_cons, List.nodup_cons]
      exact ⟨nofun, fun h => absurd (ih.2 ⟨h.1.2, h.2.2⟩) (by simp)⟩
    | some m' =>
      cases newBiMap_eq rest m' hr
      have ih' := ih.1 (by rw [hr]; rfl)
      have hc : (rest.any (fun p => p.1 = k) || rest.any (fun p => p.2 = v)) = true ↔
          k ∈ rest.map (·.1) ∨ v ∈ rest.map (·.2) := by simp [List.any_eq_true]
      simp only [newBiMap, hr, List.map_cons, List.nodup_cons, ih'.1, ih'.2, and_true]
      split
      · rename_i h; exact ⟨nofun, fun h' => ((hc.1 h).elim h'.1 h'.2).elim⟩
      · rename_i h; exact ⟨fun _ => ⟨fun a => h (hc.2 (.inl a)), fun a => h (hc.2 (.inr a))⟩, fun _ => rfl⟩
theorem bimap_nodup (m : List (α × α)) (h : newBiMap m = some m) : (m.map (·.1)).Nodup ∧ (m.map (·.2)).Nodup :=
  (newBiMap_isSome_iff m).1 (by rw [h]; rfl)

theorem translateName_inverse (m : List (α × α)) (hk : (m.map (·.1)).Nodup) (hv : (m.map (·.2)).Nodup) (s : α)
    (hs : (∃ p ∈ m, p.1 = s) ∨ (∀ p ∈ m, p.2 ≠ s)) :
    translateName (inverse m) (translateName m s) = s := by
  by_cases hex : ∃ p ∈ m, p.1 = s
  · obtain ⟨⟨a, b⟩, hp, rfl⟩ := hex
    rw [translateName_mapped m a b hp hk]
    apply translateName_mapped
    · exact List.mem_map.2 ⟨(a, b), hp, rfl⟩
    · rwa [inverse, List.map_map]
  · have hs2 : ∀ p ∈ m, p.2 ≠ s := hs.resolve_left hex
    have hs1 : ∀ p ∈ m, p.1 ≠ s := fun p hp he => hex ⟨p, hp, he⟩
    rw [translateName_unmapped m s hs1]
    apply translateName_unmapped
    intro p hp
    obtain ⟨q, hq, rfl⟩ := List.mem_map.1 hp
    exact hs2 q hq
/-- `translateName_inverse` makes `translateName m` injective on names that avoid its unmapped targets -/
theorem nodup_map_translateName (m : List (α × α)) (hk : (m.map (·.1)).Nodup) (hv : (m.map (·.2)).Nodup)
    (l : List α) (hd : l.Nodup) (hl : ∀ k ∈ l, (∃ p ∈ m, p.1 = k) ∨ (∀ p ∈ m, p.2 ≠ k)) :
    (l.map (translateName m)).Nodup := by
  unfold List.Nodup at hd ⊢
  rw [List.pairwise_map]
  refine List.Pairwise.imp_of_mem ?_ hd
  intro a b ha hb hne heq
  apply hne
  rw [← translateName_inverse m hk hv a (hl a ha), ← translateName_inverse m hk hv b (hl b hb), heq]

theorem nonempty_of_configAccepts {m : List (α × α)} {e : α} (hacc : configAccepts e m = true) :
    ∀ p ∈ m, p.1 ≠ e ∧ p.2 ≠ e := by
  unfold configAccepts at hacc
  rw [Bool.and_eq_true] at hacc
  intro p hp
  have := List.all_eq_true.mp hacc.1 p hp
  simp only [Bool.and_eq_true, Bool.not_eq_true', decide_eq_false_iff_not] at this
  exact this

theorem bimap_of_configAccepts {m : List (α × α)} {e : α} (hacc : configAccepts e m = true) : newBiMap m = some m := by
  unfold configAccepts at hacc
  rw [Bool.and_eq_true] at hacc
  cases h : newBiMap m with
  | none => rw [h] at hacc; cases hacc.2
  | some m' => rw [newBiMap_eq m m' h]
end S2S.NameMap
