import S2S.Proofs.RoutingFaultBasic
/-! `InvF` along `take`: the sender dequeues a message and assigns proxy ids. -/
namespace S2S.Routing

-- `σ.src s`, `σ.tgt t` stay folded: a failed unification of a changed record with them otherwise unfolds the lookup
attribute [local irreducible] State.src State.tgt

/-- `take` of a message whose values for `s` are `V`: they leave the pipeline, each gets a ring entry with a fresh proxy
    id (`hnew`), each task among them a proxy id (`hcov`). A new entry is `ring_ok` because a needed id below it is
    assigned already (an older proxy id, `hasg`), or is in `V` (`hnew`), or would be behind it in the pipeline
    (`sorted` excludes that). -/
theorem PairF.take {N : Int → Prop} {M : Int} {s : SId} {t : TId} {x : Source} {tg tg' : Target}
    (h : PairF N M s t x tg) (hasg : ∀ s id p, (s, id, p) ∈ tg.assigned → p ≤ tg.nextProxyId)
    {V R : List (Int × Bool)} (hfo : flat s t x tg = V ++ R) (hfl : flat s t x tg' = R)
    (hmono : ∀ a, a ∈ tg.assigned → a ∈ tg'.assigned)
    (hcov : ∀ id, (id, true) ∈ V → ∃ p, (s, id, p) ∈ tg'.assigned)
    (hnew : ∀ p o, (p, s, o) ∈ tg'.ring → (p, s, o) ∈ tg.ring ∨ (tg.nextProxyId < p ∧ ∃ b, (o, b) ∈ V ∧
      ∀ id, N id → id < o → (id, true) ∈ V → ∃ p', p' < p ∧ (s, id, p') ∈ tg'.assigned))
    (ackPc : tg'.ackPc = tg.ackPc := by rfl) (prevAck : tg'.prevAck = tg.prevAck := by rfl)
    (confirmed : tg'.confirmed = tg.confirmed := by rfl) : PairF N M s t x tg' := by
  have hsorted := List.pairwise_append.1 (hfo ▸ h.sorted)
  have hfle := hfo ▸ h.flat_le
  have hcover : ∀ id, N id → (∃ p, (s, id, p) ∈ tg.assigned) ∨ (id, true) ∈ V ∨ (id, true) ∈ R := fun id hn =>
    (h.cover id hn).imp_right fun hc => List.mem_append.1 (hfo ▸ hc)
  have f := h.vals.imp (S' := fun v => SafeN N s tg' v ∧ v ≤ M) (x' := x)
    (fun _ hv => ⟨hv.1.mono (fun _ hn => hn) (fun _ hc => confirmed ▸ hc), hv.2⟩) (fun _ hn => hn) ackPc prevAck
    rfl rfl rfl confirmed
  refine ⟨fun id hn => ?_, hfl ▸ hsorted.2.1, hfl ▸ fun y hy => hfle y (List.mem_append_right _ hy),
    fun p o hm id hn hlt => ?_, fun p o hm => ?_, f.todo, f.prev, f.chan, f.abt, f.last, f.seeded, h.cur_lt, h.grave_low⟩
  · rw [hfl]
    rcases hcover id hn with ⟨p, hp⟩ | hc | hc
    · exact .inl ⟨p, hmono _ hp⟩
    · exact .inl (hcov id hc)
    · exact .inr hc
  · rcases hnew p o hm with hm | ⟨hp, b, hb, hV⟩
    · obtain ⟨p', h1, h2⟩ := h.ring_ok p o hm id hn hlt
      exact ⟨p', h1, hmono _ h2⟩
    · rcases hcover id hn with ⟨p', hp'⟩ | hc | hc
      · exact ⟨p', by have := hasg s id p' hp'; omega, hmono _ hp'⟩
      · exact hV id hn hlt hc
      · have := hsorted.2.2 _ hb _ hc rfl hn
        simp only at this; omega
  · rcases hnew p o hm with hm | ⟨_, b, hb, _⟩
    · exact h.ring_le p o hm
    · exact hfle _ (List.mem_append_left _ hb)

theorem PairF.take_msg {N : Int → Prop} {M : Int} {s : SId} {t : TId} {x : Source} {tg : Target}
    (h : PairF N M s t x tg) (hasg : ∀ s id p, (s, id, p) ∈ tg.assigned → p ≤ tg.nextProxyId)
    {m : Msg} {rest : List Msg} (hch : tg.sendChan = m :: rest) :
    PairF N M s t x (process { tg with sendChan := rest } m) := by
  have hfo : flat s t x tg = msgVals s m ++ (chanVals s rest ++ pendVals x.pc t) := by
    simp only [flat, hch, chanVals_cons, List.append_assoc]
  cases m with
  | wm s0 w =>
    refine h.take hasg hfo rfl (fun _ ha => ha) (fun id hc => ?_) (fun p o hm => ?_)
    · simp only [msgVals] at hc; split at hc <;> simp at hc
    · rcases List.mem_append.1 hm with hm | hm
      · exact .inl hm
      · cases List.mem_singleton.1 hm
        refine .inr ⟨Int.lt_succ _, false, by simp [msgVals], fun id _ _ hc => ?_⟩
        simp [msgVals] at hc
  | tasks s0 ids =>
    -- the `i`-th task gets the `i`-th new proxy id
    have hnew : ∀ i (hi : i < ids.length), (s0, ids[i], tg.nextProxyId + 1 + (i : Int)) ∈
        (process { tg with sendChan := rest } (.tasks s0 ids)).assigned := fun i hi =>
      List.mem_append_right _ (List.mem_map.2 ⟨(ids[i], _), mem_zip_pids.2 ⟨i, hi, rfl, rfl⟩, rfl⟩)
    refine h.take hasg hfo rfl (fun _ ha => List.mem_append_left _ ha) (fun id hc => ?_) (fun p o hm => ?_)
    · obtain ⟨rfl, hid⟩ := mem_msgVals_tasks hc
      obtain ⟨i, hi, rfl⟩ := List.mem_iff_getElem.1 hid
      exact ⟨_, hnew i hi⟩
    · rcases List.mem_append.1 hm with hm | hm
      · exact .inl hm
      · obtain ⟨⟨o', p'⟩, hz, e⟩ := List.mem_map.1 hm
        cases e
        obtain ⟨i, hi, rfl, rfl⟩ := (mem_zip_pids (first := tg.nextProxyId + 1)).1 hz
        have hsI : ids.Pairwise fun a b => N b → a ≤ b := by
          have := (List.pairwise_append.1 (hfo ▸ h.sorted)).1
          rw [msgVals_tasks_self, List.pairwise_map] at this
          exact this.imp fun h => h rfl
        refine .inr ⟨by omega, true, by simp [msgVals], fun id hn hlt hc => ?_⟩
        obtain ⟨j, hj, rfl⟩ := List.mem_iff_getElem.1 (mem_msgVals_tasks hc).2
        -- the message is in increasing order on needed ids: `ids[j] < ids[i]` comes earlier, so its proxy id is smaller
        rcases Nat.lt_trichotomy j i with hji | rfl | hij
        · exact ⟨tg.nextProxyId + 1 + (j : Int), by omega, hnew j hj⟩
        · exact absurd hlt (Int.lt_irrefl _)
        · have := List.pairwise_iff_getElem.1 hsI i j hi hj hij hn
          omega

theorem invF_take {c : Cfg} {σ σ' : State} {γ : Ghost} (hI : InvF σ γ) {t : TId} (st : Step c σ (.take t) σ') :
    InvF σ' γ := by
  cases st with | @take _ m rest hst _ hch =>
  have hT := hI.tgt t
  have hreg := hT.registered_of_apply_ne Target.started (hst ▸ nofun)
  have hchan : ∀ m', m' ∈ rest → m' ∈ (σ.tgt t).handed := fun m' hm' =>
    hT.chan_handed m' (hch ▸ List.mem_cons_of_mem _ hm')
  refine hI.setTgt ?_ (fun s => (hI.pair s t).take_msg hT.asg_le hch)
  cases m with
  | tasks s0 ids =>
    refine ⟨fun e => Bool.noConfusion (hreg.symm.trans e), fun s id p hm => ?_, hchan, fun s id p hm => ?_⟩
    · show p ≤ (σ.tgt t).nextProxyId + (ids.length : Int)
      rcases List.mem_append.1 hm with hm | hm
      · have := hT.asg_le s id p hm; omega
      · obtain ⟨⟨o', p'⟩, hz, e⟩ := List.mem_map.1 hm
        cases e
        obtain ⟨i, hi, _, rfl⟩ := (mem_zip_pids (first := (σ.tgt t).nextProxyId + 1)).1 hz
        omega
    · show (s, id) ∈ tasksOf (σ.tgt t).handed
      rcases List.mem_append.1 hm with hm | hm
      · exact hT.asg_handed s id p hm
      · obtain ⟨⟨o', p'⟩, hz, e⟩ := List.mem_map.1 hm
        cases e
        exact mem_tasksOf (hT.chan_handed _ (hch ▸ List.mem_cons_self)) (List.of_mem_zip hz).1
  | wm s0 w =>
    refine ⟨fun e => Bool.noConfusion (hreg.symm.trans e), fun s id p hm => ?_, hchan, hT.asg_handed⟩
    show p ≤ (σ.tgt t).nextProxyId + 1
    have := hT.asg_le s id p hm; omega

end S2S.Routing
