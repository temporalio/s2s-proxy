import S2S.Spec.Routing
import S2S.Proofs.OptMax
import S2S.Proofs.Run
/-!
What every proof about the routing model (`S2S/Model/Routing.lean`) starts from, free of any invariant: lists, the
model's association lists, frame lemmas for the state accessors, and three devices. `Step` is the transition function
`step` as a relation, one constructor per enabled branch with its guards as hypotheses (`Step.of_step`, `Step.to_step`
are the only proofs that unfold `step`; `step_tick` and `run_cons` compute it by `rfl`). The parts of a successor state
that hide a case split are definitions with case lemmas (`pcDrop`, `tackPc`, `clampAck`, `Source.replayWm`, `tickSrc`,
`tickTgt`). `Holds` is a state predicate given record by record and pair by pair.
-/
namespace S2S.Routing

theorem takeWhile_all {α} (p : α → Bool) (l : List α) (h : ∀ a ∈ l, p a = true) : l.takeWhile p = l := by
  simpa using List.takeWhile_append_of_pos (l₂ := []) h

theorem forall_mem_snoc {α} {P : α → Prop} {l : List α} {x : α} (h : ∀ p ∈ l, P p) (hx : P x) : ∀ p ∈ l ++ [x], P p :=
  List.forall_mem_append.2 ⟨h, List.forall_mem_singleton.2 hx⟩

theorem pairwise_le_snoc {l : List Int} {m : Int} (h : l.Pairwise (· ≤ ·)) (hm : ∀ v ∈ l, v ≤ m) :
    (l ++ [m]).Pairwise (· ≤ ·) := by
  rw [List.pairwise_append]
  exact ⟨h, List.pairwise_singleton _ _, fun u hu w hw => by rw [List.mem_singleton.1 hw]; exact hm u hu⟩

theorem mem_take_append {α} {a : α} {l l' : List α} {n : Nat} (h : a ∈ l.take n) : a ∈ (l ++ l').take n := by
  rw [List.take_append]; exact List.mem_append_left _ h

theorem headD_least {l : List Int} (hp : l.Pairwise (· < ·)) (hne : l ≠ []) (d : Int) :
    l.headD d ∈ l ∧ ∀ x ∈ l, l.headD d ≤ x := by
  cases l with
  | nil => exact absurd rfl hne
  | cons a r =>
    exact ⟨List.mem_cons_self, List.forall_mem_cons.2
      ⟨Int.le_refl a, fun x hx => Int.le_of_lt (List.rel_of_pairwise_cons hp hx)⟩⟩

theorem getD_set {α} (l : List α) (i j : Nat) (x d : α) :
    (l.set i x).getD j d = if j = i ∧ i < l.length then x else l.getD j d := by
  simp only [List.getD_eq_getElem?_getD, List.getElem?_set]
  by_cases h : i = j
  · subst h; by_cases h2 : i < l.length <;> simp [h2]
  · simp [h, Ne.symm h]

theorem getD_map_default {α β} (f : α → β) (l : List α) (i : Nat) (d : α) (d' : β) (h : f d = d') :
    (l.map f).getD i d' = f (l.getD i d) := by
  simp only [List.getD_eq_getElem?_getD, List.getElem?_map]
  cases l[i]? <;> simp [h]

/-- the proxy ids `process` allocates for a sub-batch: the `i`-th task gets `first + i` -/
theorem mem_zip_pids {ids : List Int} {first : Int} {o p : Int} :
    (o, p) ∈ ids.zip ((List.range ids.length).map (fun (i : Nat) => first + (i : Int))) ↔
      ∃ i, ∃ h : i < ids.length, ids[i] = o ∧ p = first + (i : Int) := by
  simp only [List.mem_iff_getElem, List.getElem_zip, List.getElem_map, List.getElem_range, List.length_zip,
    List.length_map, List.length_range, Nat.min_self, Prod.mk.injEq, eq_comm (a := p)]

theorem strictInc_iff_pairwise {l : List Int} : StrictInc l ↔ l.Pairwise (· < ·) := by
  fun_induction StrictInc l with
  | case1 | case2 => simp
  | case3 a b r ih =>
    rw [ih, List.pairwise_cons (a := a)]
    exact ⟨fun ⟨h1, h2⟩ =>
        ⟨List.forall_mem_cons.2 ⟨h1, fun x hx => Int.lt_trans h1 (List.rel_of_pairwise_cons h2 hx)⟩, h2⟩,
      fun ⟨h1, h2⟩ => ⟨h1 b List.mem_cons_self, h2⟩⟩

theorem StrictInc.pairwise {l : List Int} (h : StrictInc l) : l.Pairwise (· < ·) := strictInc_iff_pairwise.1 h

theorem StrictInc.of_pairwise {l : List Int} (h : l.Pairwise (· < ·)) : StrictInc l := strictInc_iff_pairwise.2 h

theorem aget_nil {α} (k : Nat) : aget ([] : List (Nat × α)) k = none := rfl

theorem aget_cons {α} (k' : Nat) (v' : α) (l : List (Nat × α)) (k : Nat) :
    aget ((k', v') :: l) k = if k' = k then some v' else aget l k := by
  by_cases h : k' = k <;> simp [aget, h]

theorem aget_cons_self {α} (k : Nat) (v : α) (r : List (Nat × α)) : aget ((k, v) :: r) k = some v := by
  rw [aget_cons, if_pos rfl]

theorem aget_some_mem {α} {l : List (Nat × α)} {k : Nat} {v : α} (h : aget l k = some v) :
    (k, v) ∈ l := by
  obtain ⟨p, hp, rfl⟩ := Option.map_eq_some_iff.1 h
  have e := List.find?_some hp
  cases beq_iff_eq.1 e
  exact List.mem_of_find?_eq_some hp

theorem aget_of_mem {α} {l : List (Nat × α)} (hnd : (l.map (·.1)).Nodup) {p : Nat × α} (h : p ∈ l) :
    aget l p.1 = some p.2 := by
  induction l with
  | nil => cases h
  | cons a r ih =>
    obtain ⟨k', v'⟩ := a
    rw [List.map_cons, List.nodup_cons] at hnd
    rw [aget_cons]
    rcases List.mem_cons.1 h with rfl | h
    · rw [if_pos rfl]
    · rw [if_neg fun e : k' = p.1 => hnd.1 (e ▸ List.mem_map_of_mem (f := (·.1)) h), ih hnd.2 h]

theorem aget_filter_ne {α} (l : List (Nat × α)) (k k' : Nat) :
    aget (l.filter (fun p => p.1 != k)) k' = if k' = k then none else aget l k' := by
  induction l with
  | nil => simp only [List.filter_nil, aget_nil, ite_self]
  | cons p r ih =>
    obtain ⟨k0, v0⟩ := p
    simp only [List.filter_cons, bne_iff_ne, ne_eq, ite_not, apply_ite (aget · k'), aget_cons, ih]
    grind

theorem filter_lt_of_aget {α} {l : List (Nat × α)} {k : Nat} {v : α} (h : aget l k = some v) :
    (l.filter (fun p => p.1 != k)).length < l.length :=
  List.length_filter_lt_length_iff_exists.2 ⟨(k, v), aget_some_mem h, by simp⟩

theorem aset_cons {α} (k0 : Nat) (v0 : α) (r : List (Nat × α)) (k : Nat) (v : α) :
    aset ((k0, v0) :: r) k v = if k0 = k then (k0, v) :: r else (k0, v0) :: aset r k v := by
  simp only [aset, beq_iff_eq]

theorem aget_aset {α} (l : List (Nat × α)) (k : Nat) (v : α) (k' : Nat) :
    aget (aset l k v) k' = if k' = k then some v else aget l k' := by
  induction l with
  | nil => simp only [aset, aget_cons, aget_nil, eq_comm]
  | cons p r ih =>
    obtain ⟨k0, v0⟩ := p
    simp only [aset_cons, apply_ite (aget · k'), aget_cons, ih]
    grind

theorem getD_aget_aset {α} (l : List (Nat × α)) (k : Nat) (v : α) (k' : Nat) (d : α) :
    (aget (aset l k v) k').getD d = if k' = k then v else (aget l k').getD d := by
  rw [aget_aset]; split <;> rfl

theorem mem_aset {α} {l : List (Nat × α)} {k : Nat} {v : α} {k' : Nat} {v' : α}
    (h : (k', v') ∈ aset l k v) : (k', v') ∈ l ∨ (k' = k ∧ v' = v) := by
  induction l with
  | nil => simpa [aset] using h
  | cons p r ih =>
    obtain ⟨k0, v0⟩ := p
    rw [aset_cons] at h
    split at h <;> rcases List.mem_cons.1 h with h | h
    · cases h; exact .inr ⟨‹_›, rfl⟩
    · exact .inl (List.mem_cons_of_mem _ h)
    · exact .inl (h ▸ List.mem_cons_self)
    · exact (ih h).imp_left (List.mem_cons_of_mem _)

theorem mem_aset_self {α} (l : List (Nat × α)) (k : Nat) (v : α) : (k, v) ∈ aset l k v :=
  aget_some_mem ((aget_aset l k v k).trans (if_pos rfl))

theorem forall_aset {α} {P : Nat × α → Prop} {l : List (Nat × α)} {k : Nat} {v : α} (h : ∀ p ∈ l, P p)
    (hv : P (k, v)) : ∀ p ∈ aset l k v, P p :=
  fun p hp => (mem_aset (k' := p.1) (v' := p.2) hp).elim (h p) fun e => (Prod.ext e.1 e.2 : p = (k, v)) ▸ hv

/-- `rack` moves the head of the ack channel into `ackByTarget` -/
theorem forall_rack {α} {P : Nat × α → Prop} {abt ch rest : List (Nat × α)} {k : Nat} {v : α}
    (hch : ch = (k, v) :: rest) (ha : ∀ p ∈ abt, P p) (hc : ∀ p ∈ ch, P p) :
    (∀ p ∈ aset abt k v, P p) ∧ ∀ p ∈ rest, P p :=
  have h := List.forall_mem_cons.1 (hch ▸ hc)
  ⟨forall_aset ha h.1, h.2⟩

theorem aset_ne_nil {α} (l : List (Nat × α)) (k : Nat) (v : α) : aset l k v ≠ [] := by
  fun_cases aset l k v <;> exact List.cons_ne_nil _ _

theorem nodup_keys_aset {α} {l : List (Nat × α)} (k : Nat) (v : α) (h : (l.map (·.1)).Nodup) :
    ((aset l k v).map (·.1)).Nodup := by
  fun_induction aset l k v with
  | case1 => simp
  | case2 => exact h
  | case3 k' v' r k v hk ih =>
    rw [List.map_cons, List.nodup_cons] at h ⊢
    refine ⟨fun hm => ?_, ih h.2⟩
    obtain ⟨⟨k1, v1⟩, hp, rfl⟩ := List.mem_map.1 hm
    rcases mem_aset hp with hp | ⟨e, -⟩
    · exact h.1 (List.mem_map_of_mem (f := (·.1)) hp)
    · exact hk (beq_iff_eq.2 e)

theorem mem_aset_strong {α} {l : List (Nat × α)} (hnd : (l.map (·.1)).Nodup) {k : Nat} {v : α} {k' : Nat} {v' : α}
    (h : (k', v') ∈ aset l k v) : ((k', v') ∈ l ∧ k' ≠ k) ∨ (k' = k ∧ v' = v) := by
  have := aget_of_mem (nodup_keys_aset k v hnd) h
  rw [aget_aset] at this
  split at this
  · rename_i e; cases this; exact Or.inr ⟨e, rfl⟩
  · rename_i e; exact Or.inl ⟨aget_some_mem this, e⟩

theorem aggInsert_eq_aset (acc : List (SId × Int)) (s : SId) (v : Int) :
    aggInsert acc s v = aset acc s (Ring.omax (aget acc s) v) := by
  induction acc with
  | nil => rfl
  | cons a r ih =>
    obtain ⟨s', v'⟩ := a
    simp only [aggInsert, aset_cons, aget_cons, beq_iff_eq]
    split
    · rw [Ring.omax_some]
    · rw [ih]

theorem aget_aggInsert (acc : List (SId × Int)) (s' : SId) (v : Int) (s : SId) :
    aget (aggInsert acc s' v) s = if s' = s then some (Ring.omax (aget acc s) v) else aget acc s := by
  rw [aggInsert_eq_aset, aget_aset]
  split <;> rename_i e
  · rw [e, if_pos rfl]
  · rw [if_neg (Ne.symm e)]

theorem mem_aggInsert {acc : List (SId × Int)} {s0 : SId} {v0 : Int} {s : SId} {v : Int}
    (h : (s, v) ∈ aggInsert acc s0 v0) : (s, v) ∈ acc ∨ (s = s0 ∧ v = v0) := by
  rw [aggInsert_eq_aset] at h
  rcases mem_aset h with h | ⟨rfl, rfl⟩
  · exact .inl h
  · cases ha : aget acc s with
    | none => exact .inr ⟨rfl, rfl⟩
    | some a =>
      rw [Ring.omax_some]
      split
      · exact .inr ⟨rfl, rfl⟩
      · exact .inl (aget_some_mem ha)

theorem mem_foldl_aggInsert {l : List (Int × SId × Int)} {acc : List (SId × Int)} {s : SId} {v : Int}
    (h : (s, v) ∈ l.foldl (fun acc e => aggInsert acc e.2.1 e.2.2) acc) :
    (s, v) ∈ acc ∨ ∃ p, (p, s, v) ∈ l := by
  induction l generalizing acc with
  | nil => exact .inl h
  | cons e r ih =>
    rcases ih h with h | ⟨p, hp⟩
    · refine (mem_aggInsert h).imp_right fun ⟨h1, h2⟩ => ⟨e.1, ?_⟩
      rw [h1, h2]; exact List.mem_cons_self
    · exact .inr ⟨p, List.mem_cons_of_mem _ hp⟩

theorem mem_aggregate {ring : List (Int × SId × Int)} {w : Int} {s : SId} {v : Int}
    (h : (s, v) ∈ (aggregate ring w).1) : ∃ p, p ≤ w ∧ (p, s, v) ∈ ring := by
  rcases mem_foldl_aggInsert (l := ring.takeWhile _) h with h | ⟨p, hp⟩
  · cases h
  · have h1 := List.all_eq_true.1 List.all_takeWhile _ hp
    exact ⟨p, of_decide_eq_true h1, List.takeWhile_subset _ hp⟩

/-- the original ids / watermarks of source `s` in a piece of the ring -/
def origsOf (s : SId) (l : List (Int × SId × Int)) : List Int := (l.filter (fun e => e.2.1 == s)).map (·.2.2)

theorem aget_aggregate (ring : List (Int × SId × Int)) (w : Int) (s : SId) :
    aget (aggregate ring w).1 s = (origsOf s (ring.takeWhile (fun e => decide (e.1 ≤ w)))).max? := by
  rw [aggregate, Ring.foldl_look_omax (aget · s) _ (·.2.1 == s) (·.2.2) fun acc e => by
    simp only [aget_aggInsert, beq_iff_eq], aget_nil, Ring.foldl_omax_none]
  rfl

theorem aggregate_aget {ring : List (Int × SId × Int)} {w : Int} {s : SId} {H : Int} {p : Int}
    (h : ∀ e ∈ ring, e.1 ≤ w) (hle : ∀ e ∈ ring, e.2.1 = s → e.2.2 ≤ H) (hp : (p, s, H) ∈ ring) :
    aget (aggregate ring w).1 s = some H := by
  rw [aget_aggregate, takeWhile_all _ _ fun e he => decide_eq_true (h e he), List.max?_eq_some_iff]
  unfold origsOf
  simp only [List.mem_map, List.mem_filter, beq_iff_eq]
  exact ⟨⟨_, ⟨hp, rfl⟩, rfl⟩, fun b ⟨e, ⟨he, hs⟩, hb⟩ => hb ▸ hle e he hs⟩

theorem minVal_eq_min? (l : List (TId × Int)) : minVal l = (l.map (·.2)).min? := by
  fun_induction minVal l <;> simp_all [List.min?_cons, Int.min_def] <;> grind

theorem minVal_eq_none {l : List (TId × Int)} (h : minVal l = none) : l = [] := by
  simpa [minVal_eq_min?] using h

theorem minVal_le {l : List (TId × Int)} {m : Int} (h : minVal l = some m) : ∀ p ∈ l, m ≤ p.2 := fun _ hp =>
  (List.min?_eq_some_iff.1 (minVal_eq_min? l ▸ h)).2 _ (List.mem_map_of_mem hp)

theorem minVal_mem {l : List (TId × Int)} {m : Int} (h : minVal l = some m) : ∃ t, (t, m) ∈ l := by
  obtain ⟨p, hp, rfl⟩ := List.mem_map.1 (List.min?_mem (minVal_eq_min? l ▸ h))
  exact ⟨p.1, hp⟩

theorem minVal_aset_ne_none (l : List (TId × Int)) (t : TId) (v : Int) : minVal (aset l t v) ≠ none :=
  fun h => aset_ne_nil l t v (minVal_eq_none h)

def ownedIds (tasks : List (Int × TId)) (t : TId) : List Int :=
  (tasks.filter (fun p => p.2 == t)).map (·.1)

theorem ownedIds_cons (id : Int) (t0 : TId) (rest : List (Int × TId)) (t : TId) :
    ownedIds ((id, t0) :: rest) t = if t0 = t then id :: ownedIds rest t else ownedIds rest t := by
  unfold ownedIds
  by_cases h : t0 = t <;> simp [h]

theorem mem_ownedIds {tasks : List (Int × TId)} {t : TId} {id : Int} :
    id ∈ ownedIds tasks t ↔ (id, t) ∈ tasks := by
  unfold ownedIds
  simp only [List.mem_map, List.mem_filter, beq_iff_eq]
  constructor
  · rintro ⟨⟨a, b⟩, ⟨h1, rfl⟩, rfl⟩; exact h1
  · exact fun h => ⟨(id, t), ⟨h, rfl⟩, rfl⟩

theorem ownedIds_pairwise {tasks : List (Int × TId)} (h : StrictInc (tasks.map (·.1))) (t : TId) :
    (ownedIds tasks t).Pairwise (· < ·) := by
  unfold ownedIds
  exact List.Pairwise.sublist (List.Sublist.map _ List.filter_sublist) h.pairwise

theorem aget_groupByOwner (tasks : List (Int × TId)) (t : TId) :
    aget (groupByOwner tasks) t = if ownedIds tasks t = [] then none else some (ownedIds tasks t) := by
  induction tasks with
  | nil => rfl
  | cons p rest ih =>
    obtain ⟨id, t0⟩ := p
    simp only [groupByOwner, ownedIds_cons]
    split
    · simp only [aget_aset, ih]; grind
    · simp only [aget_cons, ih]; grind

theorem getD_aget_groupByOwner (tasks : List (Int × TId)) (t : TId) :
    (aget (groupByOwner tasks) t).getD [] = ownedIds tasks t := by
  rw [aget_groupByOwner]
  split
  · rename_i h; exact h.symm
  · rfl

theorem mem_groupByOwner {tasks : List (Int × TId)} {t : TId} {ids : List Int}
    (h : (t, ids) ∈ groupByOwner tasks) : ids ≠ [] ∧ ∀ id ∈ ids, (id, t) ∈ tasks := by
  induction tasks generalizing t ids with
  | nil => cases h
  | cons a rest ih =>
    obtain ⟨id0, t0⟩ := a
    have ih' {t ids} (h : (t, ids) ∈ groupByOwner rest) : ids ≠ [] ∧ ∀ id ∈ ids, (id, t) ∈ (id0, t0) :: rest :=
      (ih h).imp_right fun h id hid => List.mem_cons_of_mem _ (h id hid)
    simp only [groupByOwner] at h
    split at h
    · rename_i ids0 hg
      rcases mem_aset h with h | ⟨rfl, rfl⟩
      · exact ih' h
      · exact ⟨List.cons_ne_nil _ _, List.forall_mem_cons.2 ⟨List.mem_cons_self, (ih' (aget_some_mem hg)).2⟩⟩
    · rcases List.mem_cons.1 h with h | h
      · cases h; exact ⟨List.cons_ne_nil _ _, List.forall_mem_singleton.2 List.mem_cons_self⟩
      · exact ih' h

theorem groupByOwner_key {tasks : List (Int × TId)} {t : TId} {ids : List Int}
    (h : (t, ids) ∈ groupByOwner tasks) : ∃ id, (id, t) ∈ tasks :=
  have ⟨hne, hm⟩ := mem_groupByOwner h
  (List.exists_mem_of_ne_nil _ hne).imp hm

theorem groupByOwner_ne_nil {tasks : List (Int × TId)} (h : tasks ≠ []) : groupByOwner tasks ≠ [] := by
  fun_cases groupByOwner tasks
  · exact absurd rfl h
  · exact aset_ne_nil _ _ _
  · exact List.cons_ne_nil _ _

theorem mem_seed {m : List (TId × Int)} {g : List (TId × List Int)} {t : TId} {v : Int}
    (h : (t, v) ∈ seed m g) :
    (t, v) ∈ m ∨ (aget m t = none ∧ ∃ ids, aget g t = some ids ∧ v = ids.headD 0) := by
  induction g generalizing m with
  | nil => exact .inl h
  | cons p rest ih =>
    obtain ⟨t0, ids⟩ := p
    simp only [seed] at h
    split at h <;> rename_i h0
    · refine (ih h).imp_right fun ⟨h1, ids', h2, h3⟩ => ⟨h1, ids', ?_, h3⟩
      rw [aget_cons, if_neg fun e => by rw [e, h1] at h0; cases h0]; exact h2
    · rcases ih h with h | ⟨h1, ids', h2, h3⟩
      · refine (mem_aset h).imp_right fun ⟨e1, e2⟩ => ?_
        subst e1; exact ⟨h0, ids, aget_cons_self .., e2⟩
      · rw [aget_aset] at h1
        split at h1
        · cases h1
        · rename_i e
          exact .inr ⟨h1, ids', by rw [aget_cons, if_neg (Ne.symm e)]; exact h2, h3⟩

theorem forall_seed {P : TId × Int → Prop} {m : List (TId × Int)} {g : List (TId × List Int)}
    (h : ∀ p ∈ m, P p) (hg : ∀ t ids, (t, ids) ∈ g → P (t, ids.headD 0)) : ∀ p ∈ seed m g, P p :=
  fun p hp => (mem_seed (t := p.1) (v := p.2) hp).elim (h p) fun ⟨_, ids, hi, e⟩ =>
    (Prod.ext rfl e : p = (p.1, ids.headD 0)) ▸ hg p.1 ids (aget_some_mem hi)

theorem mem_seed_groups {abt : List (TId × Int)} {tasks : List (Int × TId)} {t : TId} {v : Int}
    (hinc : StrictInc (tasks.map (·.1))) (h : (t, v) ∈ seed abt (groupByOwner tasks)) :
    (t, v) ∈ abt ∨ (aget abt t = none ∧ v ∈ ownedIds tasks t ∧ ∀ id ∈ ownedIds tasks t, v ≤ id) := by
  refine (mem_seed h).imp_right fun ⟨hnone, ids, hids, hv⟩ => ?_
  rw [aget_groupByOwner] at hids
  split at hids
  · cases hids
  · cases hids; exact hv ▸ ⟨hnone, headD_least (ownedIds_pairwise hinc t) ‹_› 0⟩

theorem aget_seed (m : List (TId × Int)) (g : List (TId × List Int)) (t : TId) :
    aget (seed m g) t = (aget m t).or ((aget g t).map (·.headD 0)) := by
  induction g generalizing m with
  | nil => simp [seed, aget_nil]
  | cons p rest ih =>
    obtain ⟨t0, ids⟩ := p
    simp only [seed, ih, aget_cons]
    by_cases e : t0 = t
    · subst e; cases h0 : aget m t0 <;> simp [aget_aset, h0]
    · cases h0 : aget m t0 <;> simp [aget_aset, e, Ne.symm e]

theorem isSome_seed_groups (abt : List (TId × Int)) (tasks : List (Int × TId)) (t : TId)
    (h : (aget abt t).isSome = true ∨ ∃ id, (id, t) ∈ tasks) :
    (aget (seed abt (groupByOwner tasks)) t).isSome = true := by
  rw [aget_seed, Option.isSome_or, Bool.or_eq_true]
  refine h.imp_right fun ⟨id, h⟩ => ?_
  simp [aget_groupByOwner, List.ne_nil_of_mem (mem_ownedIds.2 h)]

theorem nodup_keys_seed {m : List (TId × Int)} (groups : List (TId × List Int)) (h : (m.map (·.1)).Nodup) :
    ((seed m groups).map (·.1)).Nodup := by
  induction groups generalizing m with
  | nil => exact h
  | cons g rest ih =>
    obtain ⟨t, ids⟩ := g
    simp only [seed]
    apply ih
    split
    · exact h
    · exact nodup_keys_aset _ _ h

theorem src_setSrc (σ : State) (s : SId) (x : Source) (s' : SId) :
    (σ.setSrc s x).src s' = if s' = s ∧ s < σ.sources.length then x else σ.src s' :=
  getD_set ..

theorem tgt_setTgt (σ : State) (t : TId) (x : Target) (t' : TId) :
    (σ.setTgt t x).tgt t' = if t' = t ∧ t < σ.targets.length then x else σ.tgt t' :=
  getD_set ..

@[simp] theorem tgt_setSrc (σ : State) (s : SId) (x : Source) (t : TId) :
    (σ.setSrc s x).tgt t = σ.tgt t := rfl

@[simp] theorem src_setTgt (σ : State) (t : TId) (x : Target) (s : SId) :
    (σ.setTgt t x).src s = σ.src s := rfl

theorem setTgt_setSrc_comm (σ : State) (s : SId) (t : TId) (x : Source) (tg : Target) :
    (σ.setTgt t tg).setSrc s x = (σ.setSrc s x).setTgt t tg := rfl

@[simp] theorem sources_length_setSrc (σ : State) (s : SId) (x : Source) :
    (σ.setSrc s x).sources.length = σ.sources.length := List.length_set

@[simp] theorem targets_length_setSrc (σ : State) (s : SId) (x : Source) :
    (σ.setSrc s x).targets.length = σ.targets.length := rfl

@[simp] theorem sources_length_setTgt (σ : State) (t : TId) (x : Target) :
    (σ.setTgt t x).sources.length = σ.sources.length := rfl

@[simp] theorem targets_length_setTgt (σ : State) (t : TId) (x : Target) :
    (σ.setTgt t x).targets.length = σ.targets.length := List.length_set

@[simp] theorem sources_setTgt (σ : State) (t : TId) (x : Target) :
    (σ.setTgt t x).sources = σ.sources := rfl

@[simp] theorem targets_setSrc (σ : State) (s : SId) (x : Source) :
    (σ.setSrc s x).targets = σ.targets := rfl

theorem src_setSrc_ne {σ : State} {s s0 : SId} (x : Source) (h : s0 ≠ s) : (σ.setSrc s x).src s0 = σ.src s0 := by
  rw [src_setSrc, if_neg (fun h' => h h'.1)]

theorem tgt_setTgt_ne {σ : State} {t t0 : TId} (y : Target) (h : t0 ≠ t) : (σ.setTgt t y).tgt t0 = σ.tgt t0 := by
  rw [tgt_setTgt, if_neg (fun h' => h h'.1)]

theorem src_setSrc_self {σ : State} {s : SId} (x : Source) (h : s < σ.sources.length) : (σ.setSrc s x).src s = x := by
  rw [src_setSrc, if_pos ⟨rfl, h⟩]

theorem tgt_setTgt_self {σ : State} {t : TId} (y : Target) (h : t < σ.targets.length) : (σ.setTgt t y).tgt t = y := by
  rw [tgt_setTgt, if_pos ⟨rfl, h⟩]

/-- `h` is asked of the records that stay: all of them when `s` is out of range -/
theorem forall_src_setSrc' {P : SId → Source → Prop} {σ : State} {s : SId} {x : Source} (hx : P s x)
    (h : ∀ s0, ¬(s0 = s ∧ s < σ.sources.length) → P s0 (σ.src s0)) (s0 : SId) : P s0 ((σ.setSrc s x).src s0) := by
  rw [src_setSrc]; split
  · rename_i e; rw [e.1]; exact hx
  · rename_i e; exact h s0 e

theorem forall_tgt_setTgt' {P : TId → Target → Prop} {σ : State} {t : TId} {y : Target} (hy : P t y)
    (h : ∀ t0, ¬(t0 = t ∧ t < σ.targets.length) → P t0 (σ.tgt t0)) (t0 : TId) : P t0 ((σ.setTgt t y).tgt t0) := by
  rw [tgt_setTgt]; split
  · rename_i e; rw [e.1]; exact hy
  · rename_i e; exact h t0 e

theorem forall_src_setSrc {P : SId → Source → Prop} {σ : State} {s : SId} {x : Source} (hx : P s x)
    (h : ∀ s0, P s0 (σ.src s0)) (s0 : SId) : P s0 ((σ.setSrc s x).src s0) :=
  forall_src_setSrc' hx (fun s0 _ => h s0) s0

theorem forall_tgt_setTgt {P : TId → Target → Prop} {σ : State} {t : TId} {y : Target} (hy : P t y)
    (h : ∀ t0, P t0 (σ.tgt t0)) (t0 : TId) : P t0 ((σ.setTgt t y).tgt t0) :=
  forall_tgt_setTgt' hy (fun t0 _ => h t0) t0

theorem rel_setSrc {R : SId → Source → Source → Prop} (hR : ∀ s x, R s x x) (σ : State) {s0 : SId} {x' : Source}
    (h : R s0 (σ.src s0) x') (s : SId) : R s (σ.src s) ((σ.setSrc s0 x').src s) :=
  forall_src_setSrc (P := fun s a => R s (σ.src s) a) h (fun s => hR s _) s

theorem rel_setTgt {R : TId → Target → Target → Prop} (hR : ∀ t x, R t x x) (σ : State) {t0 : TId} {tg' : Target}
    (h : R t0 (σ.tgt t0) tg') (t : TId) : R t (σ.tgt t) ((σ.setTgt t0 tg').tgt t) :=
  forall_tgt_setTgt (P := fun t a => R t (σ.tgt t) a) h (fun t => hR t _) t

theorem src_proj_setSrc {α} (f : Source → α) {σ : State} {s : SId} {x : Source} (h : f x = f (σ.src s))
    (s0 : SId) : f ((σ.setSrc s x).src s0) = f (σ.src s0) :=
  rel_setSrc (R := fun _ a b => f b = f a) (fun _ _ => rfl) σ h s0

theorem tgt_proj_setTgt {α} (f : Target → α) {σ : State} {t : TId} {y : Target} (h : f y = f (σ.tgt t))
    (t0 : TId) : f ((σ.setTgt t y).tgt t0) = f (σ.tgt t0) :=
  rel_setTgt (R := fun _ a b => f b = f a) (fun _ _ => rfl) σ h t0

theorem src_default_of_ge (σ : State) {s : SId} (h : σ.sources.length ≤ s) : σ.src s = {} := by
  simp [State.src, List.getD_eq_getElem?_getD, List.getElem?_eq_none h]

theorem tgt_default_of_ge (σ : State) {t : TId} (h : σ.targets.length ≤ t) : σ.tgt t = {} := by
  simp [State.tgt, List.getD_eq_getElem?_getD, List.getElem?_eq_none h]

theorem src_lt_of_ne (σ : State) {s : SId} (h : σ.src s ≠ {}) : s < σ.sources.length :=
  Nat.lt_of_not_le fun hn => h (src_default_of_ge σ hn)

theorem tgt_lt_of_ne (σ : State) {t : TId} (h : σ.tgt t ≠ {}) : t < σ.targets.length :=
  Nat.lt_of_not_le fun hn => h (tgt_default_of_ge σ hn)

theorem src_lt_of_apply_ne {α} (f : Source → α) (σ : State) (s : SId) (h : f (σ.src s) ≠ f {}) :
    s < σ.sources.length := src_lt_of_ne σ (ne_of_apply_ne f h)

theorem tgt_lt_of_apply_ne {α} (f : Target → α) (σ : State) (t : TId) (h : f (σ.tgt t) ≠ f {}) :
    t < σ.targets.length := tgt_lt_of_ne σ (ne_of_apply_ne f h)

theorem src_lt_of_active (σ : State) {s : SId} (h : (σ.src s).active = true) : s < σ.sources.length :=
  src_lt_of_apply_ne Source.active σ s (h ▸ nofun)

theorem tgt_lt_of_registered (σ : State) {t : TId} (h : (σ.tgt t).registered = true) : t < σ.targets.length :=
  tgt_lt_of_apply_ne Target.registered σ t (h ▸ nofun)

theorem tgt_lt_of_started (σ : State) {t : TId} (h : (σ.tgt t).started = true) : t < σ.targets.length :=
  tgt_lt_of_apply_ne Target.started σ t (h ▸ nofun)

/-- the index is explicit where the hypothesis is an inequation: call sites prove it by `h ▸ nofun`, from which the
    index cannot be inferred -/
theorem src_lt_of_pc (σ : State) (s : SId) (h : (σ.src s).pc ≠ .idle) : s < σ.sources.length :=
  src_lt_of_apply_ne Source.pc σ s h

theorem tgt_lt_of_ackPc (σ : State) (t : TId) (h : (σ.tgt t).ackPc ≠ .idle) : t < σ.targets.length :=
  tgt_lt_of_apply_ne Target.ackPc σ t h

theorem tgt_lt_of_holding (σ : State) (t : TId) (h : (σ.tgt t).holding ≠ none) : t < σ.targets.length :=
  tgt_lt_of_apply_ne Target.holding σ t h

theorem tgt_lt_of_replayTodo (σ : State) (t : TId) (h : (σ.tgt t).replayTodo ≠ none) : t < σ.targets.length :=
  tgt_lt_of_apply_ne Target.replayTodo σ t h

theorem src_init (ns nt : Nat) (s : SId) : (State.init ns nt).src s = {} := by
  simp only [State.src, State.init, List.getD_eq_getElem?_getD, List.getElem?_replicate]
  split <;> rfl

theorem tgt_init (ns nt : Nat) (t : TId) : (State.init ns nt).tgt t = {} := by
  simp only [State.tgt, State.init, List.getD_eq_getElem?_getD, List.getElem?_replicate]
  split <;> rfl

theorem process_registered (tg : Target) (m : Msg) : (process tg m).registered = tg.registered := by
  cases m <;> rfl

theorem process_sendChan (tg : Target) (m : Msg) : (process tg m).sendChan = tg.sendChan := by
  cases m <;> rfl

theorem process_started (tg : Target) (m : Msg) : (process tg m).started = tg.started := by
  cases m <;> rfl

theorem process_replayTodo (tg : Target) (m : Msg) : (process tg m).replayTodo = tg.replayTodo := by
  cases m <;> rfl

theorem process_emitted (tg : Target) (m : Msg) : (process tg m).emitted = tg.emitted := by
  cases m <;> rfl

theorem process_stream (tg : Target) (m : Msg) : (process tg m).stream = tg.stream := by
  cases m <;> rfl

theorem process_ackPc (tg : Target) (m : Msg) : (process tg m).ackPc = tg.ackPc := by
  cases m <;> rfl

def tickSrc (x : Source) : Source :=
  if x.active then (match x.lastSentAck with
    | some a => { x with acksSent := x.acksSent ++ [a] }
    | none => x) else x

def tickTgt (tg : Target) : Target :=
  if tg.started && tg.holding.isNone && tg.lastSentWm > 0 then
    { tg with emitted := tg.emitted ++ [{ src := 0, ids := [], high := tg.lastSentWm, orig := [], keepalive := true }] }
  else tg

abbrev State.tick (σ : State) : State := { sources := σ.sources.map tickSrc, targets := σ.targets.map tickTgt }

theorem step_tick (c : Cfg) (σ : State) :
    step c σ .tick = some σ.tick := rfl

theorem tick_src (σ : State) (s : SId) :
    σ.tick.src s = tickSrc (σ.src s) :=
  getD_map_default tickSrc σ.sources s {} {} rfl

theorem tick_tgt (σ : State) (t : TId) :
    σ.tick.tgt t = tickTgt (σ.tgt t) :=
  getD_map_default tickTgt σ.targets t {} {} rfl

/-- after `rw [tickSrc_eq]` every projection but `acksSent` reduces by `rfl` (`tickTgt_eq`: but `emitted`) -/
theorem tickSrc_eq (x : Source) : tickSrc x = { x with acksSent := (tickSrc x).acksSent } := by
  fun_cases tickSrc x <;> rfl

theorem tickTgt_eq (tg : Target) : tickTgt tg = { tg with emitted := (tickTgt tg).emitted } := by
  fun_cases tickTgt tg <;> rfl

theorem tickSrc_acksSent (x : Source) : (tickSrc x).acksSent = x.acksSent ∨
    ∃ a, x.active = true ∧ x.lastSentAck = some a ∧ (tickSrc x).acksSent = x.acksSent ++ [a] := by
  fun_cases tickSrc x
  · rename_i ha a hl; exact .inr ⟨a, ha, hl, rfl⟩
  · exact .inl rfl
  · exact .inl rfl

theorem src_proj_tick {α} (f : Source → α) (hf : ∀ x, f (tickSrc x) = f x) (σ : State) (s : SId) :
    f (σ.tick.src s) = f (σ.src s) := by
  rw [tick_src, hf]

/-- the snapshot `recv` takes for a watermark broadcast -/
def State.regs (σ : State) : List (TId × Nat) :=
  ((List.range σ.targets.length).filter (fun t => (σ.tgt t).registered)).map (fun t => (t, (σ.tgt t).inc))

theorem mem_regs {σ : State} {t : TId} {i : Nat} :
    (t, i) ∈ σ.regs ↔ t < σ.targets.length ∧ (σ.tgt t).registered = true ∧ i = (σ.tgt t).inc := by
  simp only [State.regs, List.mem_map, List.mem_filter, List.mem_range, Prod.mk.injEq]
  constructor
  · rintro ⟨t', ⟨h1, h2⟩, rfl, rfl⟩; exact ⟨h1, h2, rfl⟩
  · rintro ⟨h1, h2, rfl⟩; exact ⟨t, ⟨h1, h2⟩, rfl, rfl⟩

theorem aget_regs {σ : State} {t : TId} (hr : (σ.tgt t).registered = true) :
    aget σ.regs t = some (σ.tgt t).inc := by
  refine aget_of_mem (p := (t, _)) ?_ (mem_regs.2 ⟨tgt_lt_of_registered σ hr, hr, rfl⟩)
  simp only [State.regs, List.map_map, Function.comp_def, List.map_id']
  exact List.nodup_range.filter _

/-- the pc of a receiver after the entry for `t` of its todo list is done -/
def pcDrop {α} (mk : List (TId × α) → RecvPc) (todo : List (TId × α)) (t : TId) : RecvPc :=
  if (todo.filter (fun p => p.1 != t)).isEmpty then .idle else mk (todo.filter (fun p => p.1 != t))

theorem pcDrop_cases {α} (mk : List (TId × α) → RecvPc) (todo : List (TId × α)) (t : TId) :
    (todo.filter (fun p => p.1 != t) = [] ∧ pcDrop mk todo t = .idle) ∨
      (todo.filter (fun p => p.1 != t) ≠ [] ∧ pcDrop mk todo t = mk (todo.filter (fun p => p.1 != t))) := by
  fun_cases pcDrop mk todo t
  · exact .inl ⟨List.isEmpty_iff.1 ‹_›, rfl⟩
  · exact .inr ⟨mt List.isEmpty_iff.2 ‹_›, rfl⟩

theorem apply_pcDrop {α β} (f : RecvPc → β) {mk : List (TId × α) → RecvPc} (h : f .idle = f (mk []))
    (todo : List (TId × α)) (t : TId) : f (pcDrop mk todo t) = f (mk (todo.filter (fun p => p.1 != t))) := by
  fun_cases pcDrop mk todo t
  next he => rw [List.isEmpty_iff.1 he, h]
  · rfl

theorem pcDrop_ind {α} {P : RecvPc → Prop} {mk : List (TId × α) → RecvPc} {todo : List (TId × α)} {t : TId}
    (hidle : P .idle) (hmk : todo.filter (fun p => p.1 != t) ≠ [] → P (mk (todo.filter (fun p => p.1 != t)))) :
    P (pcDrop mk todo t) := by
  rcases pcDrop_cases mk todo t with ⟨_, e⟩ | ⟨h, e⟩ <;> rw [e]
  · exact hidle
  · exact hmk h

/-- a message enters a send channel (`bcastStep`, `deliver`, `replayStep`) -/
def Target.push (tg : Target) (m : Msg) : Target :=
  { tg with sendChan := tg.sendChan ++ [m], handed := tg.handed ++ [m] }

theorem forall_push {P : Msg → Prop} {tg : Target} {m : Msg} (h : ∀ m' ∈ tg.sendChan, P m') (hm : P m) :
    ∀ m' ∈ (tg.push m).sendChan, P m' := forall_mem_snoc h hm

/-- `recvAck` after a target acknowledgement `w`: forward the aggregate, or fall back to `prevAck` -/
def tackPc (tg : Target) (w : Int) : AckPc :=
  if (aggregate tg.ring w).1.isEmpty then
    (if tg.prevAck.isEmpty && (aggregate tg.ring w).2 == 0 then .idle else .forwarding tg.prevAck (aggregate tg.ring w).2 false)
  else .forwarding (aggregate tg.ring w).1 (aggregate tg.ring w).2 true

theorem mem_tackPc_ring {tg : Target} {w : Int} {todo : List (SId × Int)} {d : Nat} {r : Bool} {q : SId × Int}
    (e : tackPc tg w = .forwarding todo d r) (hq : q ∈ todo) :
    q ∈ tg.prevAck ∨ ∃ p, p ≤ w ∧ (p, q.1, q.2) ∈ tg.ring := by
  revert e
  fun_cases tackPc tg w <;> intro e <;> cases e
  · exact .inl hq
  · exact .inr (mem_aggregate hq)

theorem tackPc_ind {Q : AckPc → Prop} {tg : Target} {w : Int} (hidle : Q .idle)
    (hfwd : ∀ todo d r, (∀ q ∈ todo, q ∈ tg.prevAck ∨ ∃ p, p ≤ w ∧ (p, q.1, q.2) ∈ tg.ring) →
      Q (.forwarding todo d r)) : Q (tackPc tg w) := by
  cases e : tackPc tg w with
  | idle => exact hidle
  | forwarding todo d r => exact hfwd todo d r fun _ hq => mem_tackPc_ring e hq

theorem tackPc_count {tg : Target} {w : Int} {todo : List (SId × Int)} {d : Nat} {r : Bool}
    (e : tackPc tg w = .forwarding todo d r) : d = (aggregate tg.ring w).2 := by
  revert e
  fun_cases tackPc tg w <;> intro e <;> cases e <;> rfl

/-- the value `sendAck` sends for the minimum `m`: clamped to `lastHigh` once a batch has been received -/
def clampAck (x : Source) (m : Int) : Int := if x.lastHigh > 0 && m > x.lastHigh then x.lastHigh else m

theorem clampAck_cases (x : Source) (m : Int) :
    (clampAck x m = m ∧ (0 < x.lastHigh → m ≤ x.lastHigh)) ∨
      (clampAck x m = x.lastHigh ∧ 0 < x.lastHigh ∧ x.lastHigh < m) := by
  fun_cases clampAck x m <;> simp_all

theorem clampAck_of_le {x : Source} {m : Int} (h : m ≤ x.lastHigh) : clampAck x m = m :=
  (clampAck_cases x m).elim (·.1) fun h' => absurd h (Int.not_le.2 h'.2.2)

theorem clampAck_le (x : Source) (m : Int) : clampAck x m ≤ m := by
  rcases clampAck_cases x m with ⟨e, _⟩ | ⟨e, _, h⟩ <;> rw [e] <;> omega

/-- the snapshot `startTgt` takes -/
def State.actives (σ : State) : List (SId × Nat) :=
  ((List.range σ.sources.length).filter (fun s => (σ.src s).active)).map (fun s => (s, (σ.src s).inc))

/-- the watermark a replay reads from receiver `x`, snapshot incarnation `inc` -/
def Source.replayWm (x : Source) (inc : Nat) : Option Int :=
  if x.active && x.inc == inc then x.lastWatermark else (aget x.graveyard inc).getD none

theorem Source.replayWm_cases {x : Source} {inc : Nat} {h : Int} (e : x.replayWm inc = some h) :
    (x.active = true ∧ x.lastWatermark = some h) ∨ (inc, some h) ∈ x.graveyard := by
  unfold Source.replayWm at e
  split at e
  · rename_i hc; exact .inl ⟨(Bool.and_eq_true_iff.1 hc).1, e⟩
  · exact .inr (aget_some_mem ((Option.getD_eq_iff.1 e).resolve_right fun h => nomatch h.2))

inductive Step (c : Cfg) (σ : State) : Act → State → Prop
  | recvWm (s : SId) (high : Int) (hact : (σ.src s).active = true) (hidle : (σ.src s).pc = .idle) :
    Step c σ (.recv s [] high) (σ.setSrc s { σ.src s with
      lastHigh := high, lastWatermark := some high,
      pc := (if σ.regs.isEmpty then RecvPc.idle else RecvPc.bcast high σ.regs) })
  | recvTasks (s : SId) (tasks : List (Int × TId)) (high : Int) (hact : (σ.src s).active = true)
      (hidle : (σ.src s).pc = .idle) (hne : tasks ≠ []) :
    Step c σ (.recv s tasks high) (σ.setSrc s { σ.src s with
      lastHigh := high, received := (σ.src s).received ++ tasks,
      ackByTarget := if c.seedAcks then seed (σ.src s).ackByTarget (groupByOwner tasks) else (σ.src s).ackByTarget,
      pc := .deliver (groupByOwner tasks) })
  | bcastSend (s : SId) (t : TId) {high : Int} {todo : List (TId × Nat)} {inc : Nat}
      (hpc : (σ.src s).pc = .bcast high todo) (hget : aget todo t = some inc)
      (hreg : (σ.tgt t).registered = true) (hinc : (σ.tgt t).inc = inc) (hroom : hasRoom c (σ.tgt t).sendChan = true) :
    Step c σ (.bcastStep s t)
      ((σ.setSrc s { σ.src s with pc := pcDrop (.bcast high) todo t }).setTgt t
        ((σ.tgt t).push (.wm s high)))
  | bcastDrop (s : SId) (t : TId) {high : Int} {todo : List (TId × Nat)} {inc : Nat}
      (hpc : (σ.src s).pc = .bcast high todo) (hinc : aget todo t = some inc)
      (hno : ((σ.tgt t).registered && (σ.tgt t).inc == inc && hasRoom c (σ.tgt t).sendChan) = false) :
    Step c σ (.bcastStep s t)
      (σ.setSrc s { σ.src s with pc := pcDrop (.bcast high) todo t })
  | deliver (s : SId) (t : TId) {pending : List (TId × List Int)} {ids : List Int}
      (hpc : (σ.src s).pc = .deliver pending) (hids : aget pending t = some ids)
      (hreg : (σ.tgt t).registered = true) (hroom : hasRoom c (σ.tgt t).sendChan = true) :
    Step c σ (.deliver s t)
      ((σ.setSrc s { σ.src s with pc := pcDrop .deliver pending t }).setTgt t
        ((σ.tgt t).push (.tasks s ids)))
  | take (t : TId) {m : Msg} {rest : List Msg} (hst : (σ.tgt t).started = true) (hhold : (σ.tgt t).holding = none)
      (hch : (σ.tgt t).sendChan = m :: rest) :
    Step c σ (.take t) (σ.setTgt t (process { σ.tgt t with sendChan := rest } m))
  | emit (t : TId) {e : Emitted} (he : (σ.tgt t).holding = some e) :
    Step c σ (.emit t) (σ.setTgt t { σ.tgt t with
      holding := none, emitted := (σ.tgt t).emitted ++ [e], lastSentWm := e.high })
  /-- three branches of `step` in one: `tackPc` has the case split -/
  | tack (t : TId) (w : Int) (hst : (σ.tgt t).started = true) (hidle : (σ.tgt t).ackPc = .idle) :
    Step c σ (.tack t w) (σ.setTgt t { σ.tgt t with
      targetAcks := (σ.tgt t).targetAcks ++ [w],
      confirmed := (σ.tgt t).confirmed ++
        ((σ.tgt t).assigned.filter (fun a => a.2.2 < w)).map (fun a => (a.1, a.2.1)),
      ackPc := tackPc (σ.tgt t) w })
  | ackFwd (t : TId) (s : SId) {todo : List (SId × Int)} {d : Nat} {r : Bool} {v : Int}
      (hpc : (σ.tgt t).ackPc = .forwarding todo d r) (hv : aget todo s = some v)
      (hact : (σ.src s).active = true) (hroom : hasRoom c (σ.src s).ackChan = true) :
    Step c σ (.ackFwd t s)
      ((σ.setTgt t { σ.tgt t with
          ackPc := .forwarding (todo.filter (fun p => p.1 != s)) d r,
          prevAck := if r then aset (σ.tgt t).prevAck s v else (σ.tgt t).prevAck }).setSrc s
        { σ.src s with ackChan := (σ.src s).ackChan ++ [(t, v)] })
  | ackFin (t : TId) {d : Nat} {r : Bool} (hpc : (σ.tgt t).ackPc = .forwarding [] d r) :
    Step c σ (.ackFin t) (σ.setTgt t { σ.tgt t with ackPc := .idle, ring := (σ.tgt t).ring.drop d })
  /-- two branches of `step` in one (no minimum, or one below `lastSentMin`): `hq` -/
  | rackQuiet (s : SId) {t : TId} {v : Int} {rest : List (TId × Int)}
      (hact : (σ.src s).active = true) (hch : (σ.src s).ackChan = (t, v) :: rest)
      (hq : ∀ m, minVal (aset (σ.src s).ackByTarget t v) = some m → m < (σ.src s).lastSentMin) :
    Step c σ (.rack s) (σ.setSrc s { σ.src s with
      ackChan := rest, ackByTarget := aset (σ.src s).ackByTarget t v })
  | rackSend (s : SId) {t : TId} {v : Int} {rest : List (TId × Int)} {m : Int}
      (hact : (σ.src s).active = true) (hch : (σ.src s).ackChan = (t, v) :: rest)
      (hm : minVal (aset (σ.src s).ackByTarget t v) = some m) (hge : (σ.src s).lastSentMin ≤ m) :
    Step c σ (.rack s) (σ.setSrc s { σ.src s with
      ackChan := rest, ackByTarget := aset (σ.src s).ackByTarget t v,
      acksSent := (σ.src s).acksSent ++ [clampAck (σ.src s) m],
      lastSentMin := clampAck (σ.src s) m, lastSentAck := some (clampAck (σ.src s) m) })
  | openSrc (s : SId) (hact : (σ.src s).active = false) (hs : s < σ.sources.length) :
    Step c σ (.openSrc s) (σ.setSrc s {
      active := true, inc := (σ.src s).inc + 1, received := (σ.src s).received,
      acksSent := (σ.src s).acksSent, graveyard := (σ.src s).graveyard })
  | openTgt (t : TId) (hreg : (σ.tgt t).registered = false) (ht : t < σ.targets.length) :
    Step c σ (.openTgt t) (σ.setTgt t {
      registered := true, started := false, inc := (σ.tgt t).inc + 1,
      emitted := (σ.tgt t).emitted, confirmed := (σ.tgt t).confirmed })
  | startTgt (t : TId) (hreg : (σ.tgt t).registered = true) (hst : (σ.tgt t).started = false)
      (hre : (σ.tgt t).replayTodo = none) :
    Step c σ (.startTgt t) (σ.setTgt t { σ.tgt t with replayTodo := some σ.actives })
  | replaySend (t : TId) (s : SId) {todo : List (SId × Nat)} {inc : Nat} {h : Int}
      (htodo : (σ.tgt t).replayTodo = some todo) (hinc : aget todo s = some inc)
      (hwm : (σ.src s).replayWm inc = some h) (hok : (h != 0 && hasRoom c (σ.tgt t).sendChan) = true) :
    Step c σ (.replayStep t s) (σ.setTgt t
      { (σ.tgt t).push (.wm s h) with replayTodo := some (todo.filter (fun p => p.1 != s)) })
  | replaySkip (t : TId) (s : SId) {todo : List (SId × Nat)} {inc : Nat}
      (htodo : (σ.tgt t).replayTodo = some todo) (hinc : aget todo s = some inc)
      (hno : ∀ h, (σ.src s).replayWm inc = some h → (h != 0 && hasRoom c (σ.tgt t).sendChan) = false) :
    Step c σ (.replayStep t s) (σ.setTgt t { σ.tgt t with replayTodo := some (todo.filter (fun p => p.1 != s)) })
  | replayDone (t : TId) (htodo : (σ.tgt t).replayTodo = some []) :
    Step c σ (.replayDone t) (σ.setTgt t { σ.tgt t with replayTodo := none, started := true })
  | tick : Step c σ .tick σ.tick
  | breakTgt (t : TId) (hreg : (σ.tgt t).registered = true) :
    Step c σ (.breakTgt t) (σ.setTgt t {
      inc := (σ.tgt t).inc, emitted := (σ.tgt t).emitted, confirmed := (σ.tgt t).confirmed })
  | breakSrc (s : SId) (hact : (σ.src s).active = true) :
    Step c σ (.breakSrc s) (σ.setSrc s {
      inc := (σ.src s).inc, received := (σ.src s).received,
      acksSent := (σ.src s).acksSent,
      graveyard := (σ.src s).graveyard ++ [((σ.src s).inc, (σ.src s).lastWatermark)] })

theorem Step.to_step {c : Cfg} {σ σ' : State} {a : Act} (h : Step c σ a σ') : step c σ a = some σ' := by
  cases h with
  | tick => rfl
  | tack t w hst hidle =>
    simp only [step, hst, hidle, tackPc]
    by_cases he : (aggregate (σ.tgt t).ring w).1 = [] <;> simp [he]
  | @rackQuiet s t v rest hact hch hq =>
    cases hm : minVal (aset (σ.src s).ackByTarget t v) with
    | none => simp [step, hact, hch, hm]
    | some m => simp [step, hact, hch, hm, Int.not_le.2 (hq m hm)]
  | replaySend t s htodo hinc hwm hok =>
    unfold Source.replayWm at hwm
    simp only [step, htodo, hinc, hwm, hok, if_true, Target.push]
  | replaySkip t s htodo hinc hno =>
    unfold Source.replayWm at hno
    simp only [step, htodo, hinc]
    split
    · rename_i h' e; rw [hno h' e]; simp
    · rfl
  | _ => simp [step, *, State.regs, State.actives, pcDrop, Target.push, clampAck]

theorem Step.cast {c : Cfg} {σ σ' σ'' : State} {a : Act} (st : Step c σ a σ'') (h : step c σ a = some σ') :
    Step c σ a σ' :=
  Option.some.inj (st.to_step.symm.trans h) ▸ st

theorem Step.of_step {c : Cfg} {σ σ' : State} {a : Act} (h : step c σ a = some σ') : Step c σ a σ' := by
  have h0 := h
  revert h
  -- one goal per enabled branch of `step`, in the order of its definition, its guards as hypotheses; `h0` is for the
  -- branches whose successor is the constructor's only up to rewriting (`++ []`, `tackPc`)
  fun_cases step c σ a <;> intro h <;> cases h
  next hg _ he _ =>
    simp only [Bool.or_eq_true, Bool.not_eq_true', not_or, Bool.not_eq_false, bne_iff_ne, ne_eq, Decidable.not_not] at hg
    cases List.isEmpty_iff.1 he
    exact (Step.recvWm _ _ hg.1 hg.2).cast h0
  next hg _ he _ _ =>
    simp only [Bool.or_eq_true, Bool.not_eq_true', not_or, Bool.not_eq_false, bne_iff_ne, ne_eq, Decidable.not_not] at hg
    exact .recvTasks _ _ _ hg.1 hg.2 (mt List.isEmpty_iff.2 he)
  next hpc _ hinc _ _ _ hg =>
    simp only [Bool.and_eq_true, beq_iff_eq] at hg
    exact .bcastSend _ _ hpc hinc hg.1.1 hg.1.2 hg.2
  next hpc _ hinc _ _ _ hg => exact .bcastDrop _ _ hpc hinc (Bool.eq_false_iff.2 hg)
  next hpc _ hids _ hg _ _ =>
    simp only [Bool.not_eq_true', Bool.and_eq_false_iff, not_or, Bool.not_eq_false] at hg
    exact .deliver _ _ hpc hids hg.1 hg.2
  next hg _ _ hch =>
    simp only [Bool.or_eq_true, Bool.not_eq_true', not_or, Bool.not_eq_false] at hg
    exact .take _ hg.1 (by simpa using hg.2) hch
  next he => exact .emit _ he
  next hg _ _ _ _ _ _ =>
    simp only [Bool.or_eq_true, Bool.not_eq_true', not_or, Bool.not_eq_false, bne_iff_ne, ne_eq, Decidable.not_not] at hg
    exact (Step.tack _ _ hg.1 hg.2).cast h0
  next hg _ _ _ _ _ _ =>
    simp only [Bool.or_eq_true, Bool.not_eq_true', not_or, Bool.not_eq_false, bne_iff_ne, ne_eq, Decidable.not_not] at hg
    exact (Step.tack _ _ hg.1 hg.2).cast h0
  next hpc _ hv _ hg _ _ =>
    simp only [Bool.not_eq_true', Bool.and_eq_false_iff, not_or, Bool.not_eq_false] at hg
    exact .ackFwd _ _ hpc hv hg.1 hg.2
  next hpc => exact .ackFin _ hpc
  next hg _ _ _ hch _ _ hm =>
    exact .rackQuiet _ (by simpa using hg) hch fun m e => nomatch hm.symm.trans e
  next hg _ _ _ hch _ _ _ hm hge _ => exact .rackSend _ (by simpa using hg) hch hm hge
  next hg _ _ _ hch _ _ _ hm hlt =>
    exact .rackQuiet _ (by simpa using hg) hch fun m' e => by cases hm.symm.trans e; exact Int.not_le.1 hlt
  next hg =>
    simp only [Bool.or_eq_true, not_or, Bool.not_eq_true, decide_eq_true_eq, Nat.not_le] at hg
    exact .openSrc _ hg.1 hg.2
  next hg =>
    simp only [Bool.or_eq_true, not_or, Bool.not_eq_true, decide_eq_true_eq, Nat.not_le] at hg
    exact .openTgt _ hg.1 hg.2
  next hg _ =>
    simp only [Bool.or_eq_true, Bool.not_eq_true', not_or, Bool.not_eq_false] at hg
    exact .startTgt _ hg.1.1 (by simpa using hg.1.2) (by simpa using hg.2)
  next htodo _ hinc _ _ _ _ _ hwm hok => exact .replaySend _ _ htodo hinc hwm hok
  next htodo _ hinc _ _ _ _ _ hwm hno =>
    exact .replaySkip _ _ htodo hinc fun h' e => by cases hwm.symm.trans e; exact Bool.eq_false_iff.2 hno
  next htodo _ hinc _ _ _ _ hwm => exact .replaySkip _ _ htodo hinc fun h' e => nomatch hwm.symm.trans e
  next htodo => exact .replayDone _ htodo
  · exact .tick
  next hg => exact .breakTgt _ (by simpa using hg)
  next hg => exact .breakSrc _ (by simpa using hg)

/-- `Holds.setSrc`, `setTgt`, `setBoth`: a step that replaces a record shows the claims in which the new one occurs -/
structure Holds (PS : SId → Source → Prop) (PT : TId → Target → Prop)
    (PP : SId → TId → Source → Target → Prop) (σ : State) : Prop where
  src : ∀ s, PS s (σ.src s)
  tgt : ∀ t, PT t (σ.tgt t)
  pair : ∀ s t, PP s t (σ.src s) (σ.tgt t)

variable {PS PS' : SId → Source → Prop} {PT PT' : TId → Target → Prop}
  {PP PP' : SId → TId → Source → Target → Prop} {σ : State}

theorem Holds.init (ns nt : Nat) (hs : ∀ s, PS s {}) (ht : ∀ t, PT t {}) (hp : ∀ s t, PP s t {} {}) :
    Holds PS PT PP (State.init ns nt) :=
  ⟨fun s => src_init ns nt s ▸ hs s, fun t => tgt_init ns nt t ▸ ht t,
    fun s t => src_init ns nt s ▸ tgt_init ns nt t ▸ hp s t⟩

/-- the primed form is for a step that also changes what is claimed of the other records (the predicates mention a
    ghost, and the step moves it) -/
theorem Holds.setSrc' (h : Holds PS PT PP σ) {s : SId} {x' : Source} (hsl : s < σ.sources.length)
    (hS : ∀ s', s' ≠ s → PS s' (σ.src s') → PS' s' (σ.src s'))
    (hP : ∀ s' t, s' ≠ s → PP s' t (σ.src s') (σ.tgt t) → PP' s' t (σ.src s') (σ.tgt t))
    (hs : PS' s x') (hp : ∀ t, PP' s t x' (σ.tgt t)) : Holds PS' PT PP' (σ.setSrc s x') :=
  ⟨forall_src_setSrc' hs fun s' e => hS s' (fun e' => e ⟨e', hsl⟩) (h.src s'), h.tgt, fun s' t =>
    forall_src_setSrc' (P := fun s' a => PP' s' t a (σ.tgt t)) (hp t)
      (fun s' e => hP s' t (fun e' => e ⟨e', hsl⟩) (h.pair s' t)) s'⟩

theorem Holds.setSrc (h : Holds PS PT PP σ) {s : SId} {x' : Source} (hs : PS s x')
    (hp : ∀ t, PP s t x' (σ.tgt t)) : Holds PS PT PP (σ.setSrc s x') :=
  ⟨forall_src_setSrc hs h.src, h.tgt, fun s' t =>
    forall_src_setSrc (P := fun s' a => PP s' t a (σ.tgt t)) (hp t) (fun s' => h.pair s' t) s'⟩

theorem Holds.setTgt' (h : Holds PS PT PP σ) {t : TId} {tg' : Target} (htl : t < σ.targets.length)
    (hT : ∀ t', t' ≠ t → PT t' (σ.tgt t') → PT' t' (σ.tgt t'))
    (hP : ∀ s t', t' ≠ t → PP s t' (σ.src s) (σ.tgt t') → PP' s t' (σ.src s) (σ.tgt t'))
    (ht : PT' t tg') (hp : ∀ s, PP' s t (σ.src s) tg') : Holds PS PT' PP' (σ.setTgt t tg') :=
  ⟨h.src, forall_tgt_setTgt' ht fun t' e => hT t' (fun e' => e ⟨e', htl⟩) (h.tgt t'), fun s =>
    forall_tgt_setTgt' (P := fun t' b => PP' s t' (σ.src s) b) (hp s)
      (fun t' e => hP s t' (fun e' => e ⟨e', htl⟩) (h.pair s t'))⟩

theorem Holds.setTgt (h : Holds PS PT PP σ) {t : TId} {tg' : Target} (ht : PT t tg')
    (hp : ∀ s, PP s t (σ.src s) tg') : Holds PS PT PP (σ.setTgt t tg') :=
  ⟨h.src, forall_tgt_setTgt ht h.tgt, fun s =>
    forall_tgt_setTgt (P := fun t' b => PP s t' (σ.src s) b) (hp s) (h.pair s)⟩

theorem Holds.setBoth (h : Holds PS PT PP σ) {s : SId} {t : TId} {x' : Source} {tg' : Target}
    (hsl : s < σ.sources.length) (htl : t < σ.targets.length)
    (hs : PS s x') (ht : PT t tg') (h1 : PP s t x' tg')
    (h2 : ∀ t', t' ≠ t → PP s t' x' (σ.tgt t')) (h3 : ∀ s', s' ≠ s → PP s' t (σ.src s') tg') :
    Holds PS PT PP ((σ.setSrc s x').setTgt t tg') :=
  -- two writes; between them the pairs of `t` are not claimed
  (h.setSrc' (PP' := fun s' t' a b => t' ≠ t → PP s' t' a b) hsl (fun _ _ h => h) (fun _ _ _ h _ => h) hs h2).setTgt'
    htl (fun _ _ h => h) (fun _ _ e h => h e) ht
    (forall_src_setSrc' (P := fun s' a => PP s' t a tg') h1 fun s' e => h3 s' fun e' => e ⟨e', hsl⟩)

theorem Holds.tick (h : Holds PS PT PP σ) (hs : ∀ s x, PS s x → PS s (tickSrc x))
    (ht : ∀ t tg, PT t tg → PT t (tickTgt tg))
    (hp : ∀ s t x tg, PP s t x tg → PP s t (tickSrc x) (tickTgt tg)) :
    Holds PS PT PP σ.tick :=
  ⟨fun s => tick_src σ s ▸ hs s _ (h.src s), fun t => tick_tgt σ t ▸ ht t _ (h.tgt t),
    fun s t => tick_src σ s ▸ tick_tgt σ t ▸ hp s t _ _ (h.pair s t)⟩

theorem run_cons (c : Cfg) (σ : State) (a : Act) (rest : List Act) :
    run c σ (a :: rest) = run c ((step c σ a).getD σ) rest := rfl

theorem run_append (c : Cfg) (σ : State) (pre post : List Act) :
    run c σ (pre ++ post) = run c (run c σ pre) post := by
  simp only [run, List.foldl_append]

theorem run_induction {c : Cfg} {P : State → Prop}
    (hstep : ∀ {σ a σ'}, P σ → step c σ a = some σ' → P σ') {σ : State} (h : P σ) (acts : List Act) :
    P (run c σ acts) :=
  foldl_getD_induct (fun _ _ _ => hstep) acts σ h

/-- the environment hypothesis of one step, as `EnvOK` threads it -/
def StepEnv (σ : State) : Act → Prop
  | .recv s tasks high => RecvOK σ.targets.length (σ.src s) tasks high
  | _ => True

theorem EnvOK.stepEnv {c : Cfg} {σ : State} {a : Act} {rest : List Act} (h : EnvOK c σ (a :: rest)) : StepEnv σ a :=
  h.1

theorem run_induction_env {c : Cfg} {P : State → Prop}
    (hstep : ∀ {σ a σ'}, P σ → StepEnv σ a → a.isFault = false → step c σ a = some σ' → P σ')
    {σ : State} (h : P σ) {acts : List Act} (henv : EnvOK c σ acts) (hnf : NoFaults acts) :
    P (run c σ acts) := by
  induction acts generalizing σ with
  | nil => exact h
  | cons a rest ih =>
    rw [run_cons]
    refine ih ?_ henv.2 fun b hb => hnf b (List.mem_cons_of_mem _ hb)
    cases hs : step c σ a with
    | none => exact h
    | some σ' => exact hstep h henv.stepEnv (hnf a List.mem_cons_self) hs

end S2S.Routing
