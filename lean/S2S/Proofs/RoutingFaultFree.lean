import S2S.Proofs.RoutingFaultMain
/-!
C01: fault-free runs of the routing model never acknowledge an unconfirmed task — the special case of "C04 modulo the
recorded findings" in which nothing is excused.  In a run without `breakSrc` / `breakTgt` the ghost of
`Spec/RoutingFaults.lean` has nothing to record (`FF`: nothing is lost, every base is 0, the largest watermark announced
is the last one), every received task is needed (`FF.need`), `RecvOK` implies `RecvFresh`, and the C04 invariant `InvF`
is the C01 invariant `Inv` (`Inv.of_ff`).
-/
namespace S2S.Routing

/-- a receiver that has never been broken: no dead incarnation, nothing at all before it is opened, and the
    largest watermark ever announced (`M`) is the last one -/
structure SrcQ (M : Int) (x : Source) : Prop where
  grave : x.graveyard = []
  inactive : x.active = false → x = {}
  high : M = x.lastHigh

/-- a sender that has never been broken -/
def TgtQ (tg : Target) : Prop := tg.registered = false → tg = {}

/-- every task on its way from `s` to `t` has been received on `s` (by the one incarnation there has been). Read
    once, by `Inv.of_ff`: it turns `PairF.sorted`, which speaks of needed tasks, into `PairOK.sorted`. -/
def PairQ (s : SId) (t : TId) (x : Source) (tg : Target) : Prop :=
  ∀ z ∈ flat s t x tg, z.2 = true → (z.1, t) ∈ x.received

/-- what `NoFaults` means for state and ghost: nothing was ever broken, so the ghost has nothing to record -/
structure FF (σ : State) (γ : Ghost) : Prop where
  st : Holds (fun s => SrcQ (γ.maxHighOf s)) (fun _ => TgtQ) PairQ σ
  lost : ∀ t, γ.lostOf t = []
  base : ∀ s, γ.baseOf s = 0

theorem ff_init (ns nt : Nat) : FF (State.init ns nt) {} :=
  ⟨Holds.init ns nt (fun _ => ⟨rfl, fun _ => rfl, rfl⟩) (fun _ _ => rfl) (fun _ _ z hz => by cases hz),
    fun _ => rfl, fun _ => rfl⟩

theorem FF.need {σ : State} {γ : Ghost} (h : FF σ γ) {s : SId} {t : TId} {id : Int}
    (hr : (id, t) ∈ (σ.src s).received) : Need γ s t (σ.src s) id := by
  refine ⟨⟨hr, ?_⟩, by rw [h.lost]; exact List.not_mem_nil⟩
  unfold ebase
  split
  · rw [h.base, List.take_zero]; exact List.not_mem_nil
  · rename_i ha
    rw [(h.st.src s).inactive (by simpa using ha)] at hr; cases hr

theorem FF.not_excused {σ : State} {γ : Ghost} (h : FF σ γ) (s : SId) (p : Int × TId) : ¬ Excused σ γ s p := by
  simp [Excused, h.base, h.lost]

/-- the C01 invariant on the states of a fault-free run. The C01 proof itself reads `InvF`; `Inv` is what the design
    claims of these states, and what `RoutingLateInv.lean` starts from. -/
theorem Inv.of_ff {σ : State} {γ : Ghost} (hI : InvF σ γ) (hF : FF σ γ) : Inv σ := by
  refine ⟨fun s => ?_, fun t => ⟨hF.st.tgt t, (hI.tgt t).asg_le⟩, fun s t => ?_⟩
  · have S := hI.src s
    exact ⟨(hF.st.src s).inactive, S.wm_le, S.wm_pend, S.bcast_le, fun a ha => (hF.st.src s).high ▸ S.last_le a ha,
      fun id t hr => (hI.pair s t).seeded id (hF.need hr), (hF.st.src s).grave⟩
  · have P := (hI.pair s t).mono (N' := fun id => (id, t) ∈ (σ.src s).received) (fun _ => hF.need)
      (Int.le_of_eq (hF.st.src s).high)
    exact ⟨P.cover, P.sorted.imp_of_mem (fun _ hb hr hz => hr hz (hF.st.pair s t _ hb hz)), P.flat_le, P.ring_ok,
      P.ring_le, P.todo_safe, P.prev_safe, P.chan_safe, P.abt_safe, P.last_safe⟩

theorem SrcQ.keep {M : Int} {x x' : Source} (h : SrcQ M x) (hne : x ≠ {}) (ha : x'.active = x.active := by rfl)
    (hg : x'.graveyard = x.graveyard := by rfl) (hh : x'.lastHigh = x.lastHigh := by rfl) : SrcQ M x' :=
  ⟨hg ▸ h.grave, fun e => absurd (h.inactive (ha ▸ e)) hne, hh ▸ h.high⟩

theorem TgtQ.keep {tg tg' : Target} (h : TgtQ tg) (hne : tg ≠ {}) (hr : tg'.registered = tg.registered := by rfl) :
    TgtQ tg' :=
  fun e => absurd (h (hr ▸ e)) hne

theorem chanVals_push_wm {s s0 : SId} {tg : Target} {h : Int} {z : Int × Bool}
    (hz : z ∈ chanVals s (tg.push (.wm s0 h)).sendChan) (h2 : z.2 = true) : z ∈ chanVals s tg.sendChan := by
  rw [chanVals_push] at hz
  rcases List.mem_append.1 hz with hz | hz
  · exact hz
  · simp only [msgVals] at hz
    split at hz
    · rw [List.mem_singleton.1 hz] at h2; cases h2
    · cases hz

/-- a step that writes a target: the tasks in its channel were there, or are received ones (`deliver`) -/
theorem FF.setTgt {σ : State} {γ : Ghost} {t : TId} {tg' : Target} (hF : FF σ γ) (ht : TgtQ tg')
    (hc : ∀ s z, z ∈ chanVals s tg'.sendChan → z.2 = true →
      z ∈ chanVals s (σ.tgt t).sendChan ∨ (z.1, t) ∈ (σ.src s).received) : FF (σ.setTgt t tg') γ :=
  ⟨hF.st.setTgt ht fun s z hz h2 => (List.mem_append.1 hz).elim
      (fun hz => (hc s z hz h2).elim (fun hz => hF.st.pair s t z (List.mem_append_left _ hz) h2) id)
      (fun hz => hF.st.pair s t z (List.mem_append_right _ hz) h2),
    hF.lost, hF.base⟩

theorem FF.setSrc {σ : State} {γ : Ghost} {s : SId} {x' : Source} (hF : FF σ γ) (hs : SrcQ (γ.maxHighOf s) x')
    (hp : ∀ t z, z ∈ pendVals x'.pc t → z ∈ pendVals (σ.src s).pc t)
    (hr : x'.received = (σ.src s).received := by rfl) : FF (σ.setSrc s x') γ :=
  ⟨hF.st.setSrc hs fun t z hz h2 => hr ▸ hF.st.pair s t z
      ((List.mem_append.1 hz).elim (List.mem_append_left _) fun hz => List.mem_append_right _ (hp t z hz)) h2,
    hF.lost, hF.base⟩

/-- a step that writes both records is two writes: `FF` holds in between -/
theorem step_ff {c : Cfg} {σ σ' : State} {γ : Ghost} (hF : FF σ γ) {a : Act} (henv : StepEnv σ a)
    (hnf : a.isFault = false) (h : Step c σ a σ') : FF σ' (γ.upd σ a) := by
  have H := hF.st
  -- nothing was announced above `lastHigh`, so after a `recv` the largest watermark announced is the new `high`
  have hM : ∀ {s tasks high}, RecvOK σ.targets.length (σ.src s) tasks high →
      (γ.upd σ (.recv s tasks high)).maxHighOf s = high := by
    intro s tasks high hok
    rw [maxHighOf_upd_self, (H.src s).high]
    have := hok.2.2.2
    split <;> omega
  cases h with
  | breakTgt | breakSrc => cases hnf
  | emit t h0 | tack t _ h0 | ackFin t h0 | startTgt t h0 | replaySkip t _ h0 | replayDone t h0 =>
    exact hF.setTgt ((H.tgt t).keep (by intro e; rw [e] at h0; cases h0)) (fun _ _ hz _ => .inl hz)
  | take t hst hhold hch =>
    refine hF.setTgt ((H.tgt t).keep (ne_of_apply_ne Target.started (hst ▸ nofun)) (process_registered _ _))
      (fun s z hz _ => .inl ?_)
    rw [process_sendChan] at hz
    rw [hch, chanVals_cons]
    exact List.mem_append_right _ hz
  | replaySend t s htodo =>
    exact hF.setTgt ((H.tgt t).keep (ne_of_apply_ne Target.replayTodo (htodo ▸ nofun)))
      (fun _ _ hz h2 => .inl (chanVals_push_wm hz h2))
  | openTgt t hreg => exact hF.setTgt nofun nofun
  | rackQuiet s hact | rackSend s hact =>
    exact hF.setSrc ((H.src s).keep (ne_of_apply_ne Source.active (hact ▸ nofun))) (fun _ _ hz => hz)
  | ackFwd t s hpc hv hact =>
    exact .setSrc (.setTgt hF ((H.tgt t).keep (ne_of_apply_ne Target.ackPc (hpc ▸ nofun))) (fun _ _ hz _ => .inl hz))
      ((H.src s).keep (ne_of_apply_ne Source.active (hact ▸ nofun))) (fun _ _ hz => hz)
  | bcastDrop s t hpc =>
    exact hF.setSrc ((H.src s).keep (ne_of_apply_ne Source.pc (hpc ▸ nofun)))
      (fun t' z hz => by rw [pendVals_pcDrop_bcast] at hz; cases hz)
  | bcastSend s t hpc _ hreg =>
    exact .setTgt (.setSrc hF ((H.src s).keep (ne_of_apply_ne Source.pc (hpc ▸ nofun)))
      (fun t' z hz => by rw [pendVals_pcDrop_bcast] at hz; cases hz))
      (fun e => Bool.noConfusion (hreg.symm.trans e)) (fun _ _ hz h2 => .inl (chanVals_push_wm hz h2))
  | deliver s t hpc hids hreg hroom =>
    rw [← setTgt_setSrc_comm]
    refine .setSrc (.setTgt hF (fun e => Bool.noConfusion (hreg.symm.trans e)) (fun s' z hz h2 => ?_))
      ((H.src s).keep (ne_of_apply_ne Source.pc (hpc ▸ nofun))) (fun t' z hz => ?_)
    · rw [chanVals_push] at hz
      refine (List.mem_append.1 hz).imp_right fun hz => ?_
      obtain ⟨rfl, _⟩ := mem_msgVals_tasks (id := z.1) (b := z.2) hz
      rw [msgVals_tasks_self, ← pendVals_deliver_self hids, ← hpc] at hz
      exact H.pair s t z (List.mem_append_right _ hz) h2
    · rw [pendVals_pcDrop_deliver] at hz
      split at hz
      · cases hz
      · exact hpc ▸ hz
  | tick =>
    refine ⟨H.tick (fun _ x hx => ?_) (fun _ tg ht => ?_) (fun _ _ _ _ h => by rw [tickSrc_eq, tickTgt_eq]; exact h), hF.lost, hF.base⟩
    · rw [tickSrc_eq]; exact ⟨hx.grave, fun e => by rw [hx.inactive e]; rfl, hx.high⟩
    · rw [tickTgt_eq]; exact fun e => by rw [ht e]; rfl
  | openSrc s hact hsl =>
    have e := (H.src s).inactive hact
    refine ⟨FF.st (γ := γ) (.setSrc hF ⟨(H.src s).grave, nofun, ?_⟩ nofun), hF.lost, fun s' => ?_⟩
    · have := (H.src s).high; rw [e] at this; exact this
    · by_cases e' : s' = s
      · rw [e', baseOf_upd_self, e]; rfl
      · rw [baseOf_upd_ne e']; exact hF.base s'
  | recvWm s high hact hidle =>
    refine ⟨H.setSrc' (src_lt_of_active σ hact)
      (fun s' e hs => by rw [maxHighOf_upd_ne e]; exact hs) (fun _ _ _ hp => hp)
      ⟨(H.src s).grave, fun e => (by rw [show _ = true from hact] at e; cases e), hM henv⟩
      (fun t z hz h2 => H.pair s t z ?_ h2), hF.lost, hF.base⟩
    simp only [flat, pendVals_ite_bcast, hidle, pendVals_idle] at hz ⊢; exact hz
  | recvTasks s tasks high hact hidle hne =>
    refine ⟨H.setSrc' (src_lt_of_active σ hact)
      (fun s' e hs => by rw [maxHighOf_upd_ne e]; exact hs) (fun _ _ _ hp => hp)
      ⟨(H.src s).grave, fun e => (by rw [show _ = true from hact] at e; cases e), hM henv⟩
      (fun t z hz h2 => ?_), hF.lost, hF.base⟩
    simp only [flat, pendVals_groups] at hz
    show (z.1, t) ∈ (σ.src s).received ++ tasks
    rcases List.mem_append.1 hz with hz | hz
    · exact List.mem_append_left _ (H.pair s t z (List.mem_append_left _ hz) h2)
    · obtain ⟨id, hid, e⟩ := List.mem_map.1 hz
      subst e
      exact List.mem_append_right _ (mem_ownedIds.1 hid)

/-- reachable without faults: the C04 invariant holds for a ghost that has nothing to record -/
def FaultFree (σ : State) : Prop := ∃ γ, InvF σ γ ∧ FF σ γ

theorem faultFree_init (ns nt : Nat) : FaultFree (State.init ns nt) := ⟨{}, invF_init ns nt, ff_init ns nt⟩

theorem FaultFree.inv {σ : State} (h : FaultFree σ) : Inv σ := let ⟨_, hI, hF⟩ := h; Inv.of_ff hI hF

theorem step_faultFree {c : Cfg} (hc : c.seedAcks = true) {σ σ' : State} (hR : FaultFree σ) {a : Act} (henv : StepEnv σ a)
    (hnf : a.isFault = false) (h : step c σ a = some σ') : FaultFree σ' ∧ AckStepSafe σ σ' := by
  obtain ⟨γ, hI, hF⟩ := hR
  have hF' := step_ff hF henv hnf (Step.of_step h)
  have hI' : InvF σ' (γ.upd σ a) := by
    refine step_invF hc hI ?_ h
    cases a with
    | recv s tasks high =>
      -- nothing was announced above `lastHigh`, so every batch is fresh
      exact ⟨henv, fun p hp => Or.inr ((hF.st.src s).high ▸ (henv.2.1 p hp).2.1)⟩
    | _ => trivial
  exact ⟨⟨_, hI', hF'⟩, fun s _ v hv p hp hlt =>
    (invF_lastAck_safe hI' (step_acksAreLast h s v hv) hp hlt).resolve_right (hF'.not_excused s p)⟩

theorem acks_safe_of_faultFree {c : Cfg} (hc : c.seedAcks = true) (σ : State) (hR : FaultFree σ) (acts : List Act)
    (henv : EnvOK c σ acts) (hnf : NoFaults acts) : AcksSafeAlong c σ acts := by
  induction acts generalizing σ with
  | nil => trivial
  | cons a rest ih =>
    have hnf' : NoFaults rest := fun b hb => hnf b (List.mem_cons_of_mem _ hb)
    have hr := henv.stepEnv
    unfold EnvOK at henv
    unfold AcksSafeAlong
    cases hstep : step c σ a with
    | none => rw [hstep] at henv; exact ih σ hR henv.2 hnf'
    | some σ' =>
      rw [hstep] at henv
      have := step_faultFree hc hR hr (hnf a List.mem_cons_self) hstep
      exact ⟨this.2, ih σ' this.1 henv.2 hnf'⟩

end S2S.Routing
