import S2S.Proofs.RegistryBasic
import S2S.Proofs.Run
/-!
`step` as a relation.  Every invariant of C08 is proved by case analysis on what one step did; `Step` names the
branches of `step` once (guards as hypotheses, successor state spelt out), and `step` itself is taken apart once, by its own
case principle, in `Step.of_step`, which the run lemmas call.
-/
namespace S2S.Registry

/-- an inversion tactic that works on `step` directly: after `cases a`, one goal per branch of `step` for that action, with the
    successor state substituted.  It walks the whole `match` for every action, so it is dear when run for all of them. -/
macro "step_inv " h:ident : tactic => `(tactic| (
  unfold step at $h:ident
  split at $h:ident
  all_goals (first | contradiction | skip)
  simp only at $h:ident
  all_goals (repeat' split at $h:ident)
  all_goals (first | contradiction | skip)
  all_goals (injection $h:ident with $h:ident; subst $h:ident)))

macro "crush" : tactic => `(tactic| ((repeat' split) <;> simp_all))

/-- one constructor per branch of `step`; a branch whose result contains an `if` is split in two -/
inductive Step (c : Cfg) (σ : State) : Act → State → Prop
  | «open» (sh srv) : Step c σ (.open sh srv)
      ((σ.setInc σ.next { shard := sh, srv := srv, spc := .start, rpc := .start }).setNext (σ.next + 1))
  | tick : Step c σ .tick (σ.setClock (σ.clock + 1))
  | brk (i) (h : ¬ ((σ.inc i).spc = .done ∧ (σ.inc i).rpc = .done)) :
      Step c σ (.brk i) (σ.setInc i { σ.inc i with broken := true })
  | stop : Step c σ .stop σ.setStopped
  | wm (i) (h : (σ.inc i).rpc = .running ∧ σ.down i = false) :
      Step c σ (.wm i) (σ.setInc i { σ.inc i with lastWm := true })
  | deliverMsg (t) (h : ¬ (σ.inc t).spc = .start) : Step c σ (.deliverMsg t) (sendOn σ t c.deliverRecover)
  | bcast (t) (h : ¬ (σ.inc t).spc = .start) : Step c σ (.bcast t) (sendOn σ t c.bcastRecover)
  | deliverAck (sh) : Step c σ (.deliverAck sh) σ
  | replaySend (r sh t) (hw : (σ.inc r).lastWm = true) (ht : aget σ.sendChans sh = some t) :
      Step c σ (.replay r sh) (sendOn σ t c.replayRecover)
  | replayNone (r sh) (hw : (σ.inc r).lastWm = true) (ht : aget σ.sendChans sh = none) : Step c σ (.replay r sh) σ
  | replaySkip (r sh) (hw : ¬ (σ.inc r).lastWm = true) : Step c σ (.replay r sh) σ
  | sNotice (i) (h : (σ.inc i).broken = true ∧ (σ.inc i).shutdown = false ∧ (σ.inc i).spc = .running) :
      Step c σ (.sNotice i) (σ.setInc i { σ.inc i with shutdown := true })
  | rNotice (i) (h : (σ.inc i).cancelled = true ∧ (σ.inc i).shutdown = false ∧ (σ.inc i).rpc = .running) :
      Step c σ (.rNotice i) (σ.setInc i { σ.inc i with shutdown := true })
  | selfEnd (i) (h : (σ.inc i).shutdown = false ∧ (σ.inc i).rpc = .running) :
      Step c σ (.selfEnd i) (σ.setInc i { σ.inc i with shutdown := true })
  | sSet (i) (h : (σ.inc i).spc = .start ∧ (σ.inc i).rpc ≠ .start) :
      Step c σ (.sSet i) ((σ.setInc i { σ.inc i with spc := .set }).setSend (aset σ.sendChans (σ.inc i).shard i))
  | sAdd (i) (h : (σ.inc i).spc = .set) :
      Step c σ (.sAdd i) ((σ.setInc i { σ.inc i with spc := .added, stamp := σ.clock }).setLocal
        (aset σ.localShards (σ.inc i).shard (i, σ.clock)))
  | sSnap (i) (h : (σ.inc i).spc = .added) :
      Step c σ (.sSnap i) (σ.setInc i { σ.inc i with spc := .notify (receiversFor σ (clusterOf (σ.inc i).shard)) none })
  | sLookWm (i r todo) (h : (σ.inc i).spc = .notify todo none) (hr : r ∈ todo) (hw : (σ.inc r).lastWm = true) :
      Step c σ (.sLook i r) (σ.setInc i { σ.inc i with spc := .notify (todo.erase r) (aget σ.sendChans (σ.inc i).shard) })
  | sLookNo (i r todo) (h : (σ.inc i).spc = .notify todo none) (hr : r ∈ todo) (hw : ¬ (σ.inc r).lastWm = true) :
      Step c σ (.sLook i r) (σ.setInc i { σ.inc i with spc := .notify (todo.erase r) none })
  | sSend (i todo t) (h : (σ.inc i).spc = .notify todo (some t)) :
      Step c σ (.sSend i) (sendOn (σ.setInc i { σ.inc i with spc := .notify todo none }) t c.replayRecover)
  | sNotifyDone (i) (h : (σ.inc i).spc = .notify [] none) :
      Step c σ (.sNotifyDone i) (σ.setInc i { σ.inc i with spc := .running })
  | sClose (i) (h : (σ.inc i).spc = .running ∧ σ.down i = true) :
      Step c σ (.sClose i) (σ.setInc i { σ.inc i with spc := .closed, closed := true })
  | sUnregOwn (i v st) (h : (σ.inc i).spc = .closed) (hg : aget σ.localShards (σ.inc i).shard = some (v, st))
      (hst : st = (σ.inc i).stamp) :
      Step c σ (.sUnregCheck i) (steal ((σ.setInc i { σ.inc i with spc := .unreg }).setLocal
        (adel σ.localShards (σ.inc i).shard)) i .localShards (some v))
  | sUnregOther (i v st) (h : (σ.inc i).spc = .closed) (hg : aget σ.localShards (σ.inc i).shard = some (v, st))
      (hst : ¬ st = (σ.inc i).stamp) : Step c σ (.sUnregCheck i) (σ.setInc i { σ.inc i with spc := .rmChan })
  | sUnregNone (i) (h : (σ.inc i).spc = .closed) (hg : aget σ.localShards (σ.inc i).shard = none) :
      Step c σ (.sUnregCheck i) (σ.setInc i { σ.inc i with spc := .rmChan })
  | sUnregAgainDel (i) (h : (σ.inc i).spc = .unreg) (hc : c.secondDelete = true) :
      Step c σ (.sUnregAgain i) (steal ((σ.setInc i { σ.inc i with spc := .rmChan }).setLocal
        (adel σ.localShards (σ.inc i).shard)) i .localShards ((aget σ.localShards (σ.inc i).shard).map (·.1)))
  | sUnregAgain (i) (h : (σ.inc i).spc = .unreg) (hc : ¬ c.secondDelete = true) :
      Step c σ (.sUnregAgain i) (σ.setInc i { σ.inc i with spc := .rmChan })
  | sRmChanOwn (i) (h : (σ.inc i).spc = .rmChan) (hg : aget σ.sendChans (σ.inc i).shard = some i) :
      Step c σ (.sRmChan i) ((σ.setInc i { σ.inc i with spc := .done }).setSend (adel σ.sendChans (σ.inc i).shard))
  | sRmChanOther (i) (h : (σ.inc i).spc = .rmChan) (hg : ¬ aget σ.sendChans (σ.inc i).shard = some i) :
      Step c σ (.sRmChan i) (σ.setInc i { σ.inc i with spc := .done })
  | rGetSome (i g) (h : (σ.inc i).rpc = .start) (hg : aget σ.cancels (σ.inc i).shard = some g) :
      Step c σ (.rGet i) (σ.setInc i { σ.inc i with rpc := .term g })
  | rGetNone (i) (h : (σ.inc i).rpc = .start) (hg : aget σ.cancels (σ.inc i).shard = none) :
      Step c σ (.rGet i) (σ.setInc i { σ.inc i with rpc := .opening })
  | rCancelSelf (i g) (h : (σ.inc i).rpc = .term g) (hg : g = i) :
      Step c σ (.rCancel i) (σ.setInc i { σ.inc i with rpc := .termRm, cancelled := true })
  | rCancel (i g) (h : (σ.inc i).rpc = .term g) (hg : ¬ g = i) :
      Step c σ (.rCancel i) ((σ.setInc i { σ.inc i with rpc := .termRm }).setInc g { σ.inc g with cancelled := true })
  | rRmCancel (i) (h : (σ.inc i).rpc = .termRm) :
      Step c σ (.rRmCancel i) ((σ.setInc i { σ.inc i with rpc := .termAck }).setCancels (adel σ.cancels (σ.inc i).shard))
  | rForceAck (i) (h : (σ.inc i).rpc = .termAck) :
      Step c σ (.rForceAck i) ((σ.setInc i { σ.inc i with rpc := .opening }).setAck (adel σ.ackChans (σ.inc i).shard))
  | rOpenOk (i ok) (h : (σ.inc i).rpc = .opening) (hok : ok = true) :
      Step c σ (.rOpen i ok) (σ.setInc i { σ.inc i with rpc := .opened })
  | rOpenFail (i ok) (h : (σ.inc i).rpc = .opening) (hok : ¬ ok = true) :
      Step c σ (.rOpen i ok) (σ.setInc i { σ.inc i with rpc := .done })
  | rSetAck (i) (h : (σ.inc i).rpc = .opened) :
      Step c σ (.rSetAck i) ((σ.setInc i { σ.inc i with rpc := .ackSet }).setAck (aset σ.ackChans (σ.inc i).shard i))
  | rSetCancel (i) (h : (σ.inc i).rpc = .ackSet) :
      Step c σ (.rSetCancel i) ((σ.setInc i { σ.inc i with rpc := .cancelSet }).setCancels (aset σ.cancels (σ.inc i).shard i))
  | rRegActive (i) (h : (σ.inc i).rpc = .cancelSet) :
      Step c σ (.rRegActive i) ((σ.setInc i { σ.inc i with rpc := .running }).setActives (aset σ.actives (σ.inc i).shard i))
  | rRmAckOwn (i) (h : (σ.inc i).rpc = .running ∧ σ.down i = true) (hg : aget σ.ackChans (σ.inc i).shard = some i) :
      Step c σ (.rRmAck i) ((σ.setInc i { σ.inc i with rpc := .cleanCheck }).setAck (adel σ.ackChans (σ.inc i).shard))
  | rRmAckOther (i) (h : (σ.inc i).rpc = .running ∧ σ.down i = true) (hg : ¬ aget σ.ackChans (σ.inc i).shard = some i) :
      Step c σ (.rRmAck i) (σ.setInc i { σ.inc i with rpc := .cleanCheck })
  | rCheckClean (i) (h : (σ.inc i).rpc = .cleanCheck) (hc : (c.cleanupUnconditional || !(σ.inc i).cancelled) = true) :
      Step c σ (.rCheck i) (σ.setInc i { σ.inc i with rpc := .cleanCancel })
  | rCheckDone (i) (h : (σ.inc i).rpc = .cleanCheck) (hc : ¬ (c.cleanupUnconditional || !(σ.inc i).cancelled) = true) :
      Step c σ (.rCheck i) (σ.setInc i { σ.inc i with rpc := .done })
  | rRmOwnCancel (i) (h : (σ.inc i).rpc = .cleanCancel) :
      Step c σ (.rRmOwnCancel i) (steal ((σ.setInc i { σ.inc i with rpc := .cleanActive }).setCancels
        (adel σ.cancels (σ.inc i).shard)) i .cancels (aget σ.cancels (σ.inc i).shard))
  | rUnregActive (i) (h : (σ.inc i).rpc = .cleanActive) :
      Step c σ (.rUnregActive i) (steal ((σ.setInc i { σ.inc i with rpc := .done }).setActives
        (adel σ.actives (σ.inc i).shard)) i .actives (aget σ.actives (σ.inc i).shard))

theorem Step.of_step {c σ a σ'} (h : step c σ a = some σ') : Step c σ a σ' := by
  revert h
  -- the branches of `step` in the order of its definition; the disabled ones have `none = some σ'`
  fun_cases step c σ a <;> intro h <;> cases h
  · exact .open _ _
  · exact .tick
  · exact .brk _ ‹_›
  · exact .stop
  · exact .wm _ ‹_›
  · exact .deliverMsg _ ‹_›
  · exact .bcast _ ‹_›
  · exact .deliverAck _
  · exact .replaySend _ _ _ ‹_› ‹_›
  · exact .replayNone _ _ ‹_› ‹_›
  · exact .replaySkip _ _ ‹_›
  · exact .sNotice _ ‹_›
  · exact .rNotice _ ‹_›
  · exact .selfEnd _ ‹_›
  · exact .sSet _ ‹_›
  · exact .sAdd _ ‹_›
  · exact .sSnap _ ‹_›
  · exact .sLookWm _ _ _ ‹_› ‹_› ‹_›
  · exact .sLookNo _ _ _ ‹_› ‹_› ‹_›
  · exact .sSend _ _ _ ‹_›
  · exact .sNotifyDone _ ‹_›
  · exact .sClose _ ‹_›
  · exact .sUnregOwn _ _ _ ‹_› ‹_› rfl
  · exact .sUnregOther _ _ _ ‹_› ‹_› ‹_›
  · exact .sUnregNone _ ‹_› ‹_›
  · exact .sUnregAgainDel _ ‹_› ‹_›
  · exact .sUnregAgain _ ‹_› ‹_›
  · exact .sRmChanOwn _ ‹_› ‹_›
  · exact .sRmChanOther _ ‹_› ‹_›
  · exact .rGetSome _ _ ‹_› ‹_›
  · exact .rGetNone _ ‹_› ‹_›
  · exact .rCancelSelf _ _ ‹_› rfl
  · exact .rCancel _ _ ‹_› ‹_›
  · exact .rRmCancel _ ‹_›
  · exact .rForceAck _ ‹_›
  next ok _ _ =>
    cases ok
    · exact .rOpenFail _ _ ‹_› Bool.false_ne_true
    · exact .rOpenOk _ _ ‹_› rfl
  · exact .rSetAck _ ‹_›
  · exact .rSetCancel _ ‹_›
  · exact .rRegActive _ ‹_›
  · exact .rRmAckOwn _ ‹_› ‹_›
  · exact .rRmAckOther _ ‹_› ‹_›
  · split
    · exact .rCheckClean _ ‹_› ‹_›
    · exact .rCheckDone _ ‹_› ‹_›
  · exact .rRmOwnCancel _ ‹_›
  · exact .rUnregActive _ ‹_›

theorem run_nil (c : Cfg) (σ : State) : run c σ [] = σ := rfl

theorem run_induct {c : Cfg} {H : State → Act → Prop} {I : State → Prop}
    (hstep : ∀ σ a σ', Step c σ a σ' → H σ a → I σ → I σ') (acts : List Act) (σ : State) (hI : I σ)
    (hA : Along c H σ acts) : I (run c σ acts) := by
  fun_induction Along c H σ acts with
  | case1 => exact hI
  | case2 σ a rest σ' hs ih => simpa [run, hs] using ih (hstep _ _ _ (.of_step hs) hA.1 hI) hA.2
  | case3 σ a rest hs ih => simpa [run, hs] using ih hI hA

theorem along_mono {c : Cfg} {H H' : State → Act → Prop} (hm : ∀ σ a, H σ a → H' σ a) (acts : List Act) (σ : State)
    (h : Along c H σ acts) : Along c H' σ acts := by
  fun_induction Along c H σ acts <;> simp_all [Along]

/-! The invariants about the receiver registries read `next`, `localAckChannels`, `localReceiverCancelFuncs`,
`activeReceivers` and, of an incarnation, `shard`, `rpc`, `cancelled`; those about the sender registries read `next`,
`localShards`, `remoteSendChannels` and `shard`, `spc`, `stamp`, `closed`.  A step of the other worker, or of the
environment, changes none of what such an invariant reads, so it is preserved without looking at the step. -/

/-- the receiver's steps, and `open` (which creates one).  A step theorem about the receiver's side settles the other steps
    first, by `Step.recvSame`; in the case analysis that follows they are the goals that `Bool.noConfusion ha` closes. -/
def Act.movesRecv : Act → Bool
  | .open _ _ | .rGet _ | .rCancel _ | .rRmCancel _ | .rForceAck _ | .rOpen _ _ | .rSetAck _ | .rSetCancel _
  | .rRegActive _ | .rRmAck _ | .rCheck _ | .rRmOwnCancel _ | .rUnregActive _ => true
  | _ => false

def Act.movesSend : Act → Bool
  | .open _ _ | .sSet _ | .sAdd _ | .sSnap _ | .sLook _ _ | .sSend _ | .sNotifyDone _ | .sClose _ | .sUnregCheck _
  | .sUnregAgain _ | .sRmChan _ => true
  | _ => false

/-- used as `simp only [h.recvSame ha]`: every conjunct, those under `∀ j` included, is a rewrite rule `σ'.x = σ.x` -/
theorem Step.recvSame {c σ a σ'} (h : Step c σ a σ') (ha : a.movesRecv = false) :
    σ'.next = σ.next ∧ σ'.ackChans = σ.ackChans ∧ σ'.cancels = σ.cancels ∧ σ'.actives = σ.actives ∧
    ∀ j, (σ'.inc j).shard = (σ.inc j).shard ∧ (σ'.inc j).rpc = (σ.inc j).rpc ∧ (σ'.inc j).cancelled = (σ.inc j).cancelled := by
  cases h <;> first
    | exact Bool.noConfusion ha
    | exact ⟨by simp, by simp, by simp, by simp, fun j => by simp <;> crush⟩

theorem Step.sendSame {c σ a σ'} (h : Step c σ a σ') (ha : a.movesSend = false) :
    σ'.next = σ.next ∧ σ'.localShards = σ.localShards ∧ σ'.sendChans = σ.sendChans ∧
    ∀ j, (σ'.inc j).shard = (σ.inc j).shard ∧ (σ'.inc j).spc = (σ.inc j).spc ∧ (σ'.inc j).stamp = (σ.inc j).stamp ∧
      (σ'.inc j).closed = (σ.inc j).closed := by
  cases h <;> first
    | exact Bool.noConfusion ha
    | exact ⟨by simp, by simp, by simp, fun j => by simp <;> crush⟩

/-- `σ'` differs from `σ` in the record of `k`, which stays in its shard, and in `reg` at most at that shard -/
structure Writes {α : Type} (reg : State → List (Shard × α)) (k : Tok) (σ σ' : State) : Prop where
  next : σ'.next = σ.next
  inc : ∀ j, k ≠ j → σ'.inc j = σ.inc j
  shard : (σ'.inc k).shard = (σ.inc k).shard
  reg : ∀ c, (σ.inc k).shard ≠ c → aget (reg σ') c = aget (reg σ) c

/-- the registry a step writes, and whose step it is -/
def Act.writes : Act → Option ((Σ α, State → List (Shard × α)) × Tok)
  | .sSet k | .sRmChan k => some (⟨_, State.sendChans⟩, k)
  | .sAdd k | .sUnregCheck k | .sUnregAgain k => some (⟨_, State.localShards⟩, k)
  | .rSetCancel k | .rRmCancel k | .rRmOwnCancel k => some (⟨_, State.cancels⟩, k)
  | .rRegActive k | .rUnregActive k => some (⟨_, State.actives⟩, k)
  | .rSetAck k | .rForceAck k | .rRmAck k => some (⟨_, State.ackChans⟩, k)
  | _ => none

/-- used as `have w := @h.writes` before `cases h` (it speaks of `σ'`); `w _ _ _ rfl` in the arm of a writing step, and `clear w`
    where `simp_all` runs -/
theorem Step.writes {c σ a σ' α reg k} (h : Step c σ a σ') (ha : a.writes = some (⟨α, reg⟩, k)) : Writes reg k σ σ' := by
  cases h <;> cases ha <;>
    exact ⟨by simp, fun j e => by simp [e], by simp, fun c e => by simp [aget_aset, aget_adel, e]⟩

/-- `rSetCancel` is the only step that registers a cancel function: the receiver's own -/
theorem Step.cancels_from {c σ a σ'} (h : Step c σ a σ') {sh : Shard} {t : Tok} (ht : aget σ'.cancels sh = some t) :
    aget σ.cancels sh = some t ∨
      ((σ.inc t).rpc = .ackSet ∧ (σ'.inc t).shard = sh ∧ (σ'.inc t).rpc = .cancelSet) := by
  cases ha : a.movesRecv
  · exact .inl (by simpa only [h.recvSame ha] using ht)
  · cases h <;> first
      | exact Bool.noConfusion ha
      | (revert ht; simp +contextual [aget_aset, aget_adel] <;> (split <;> intro e <;> simp_all))

/-- `rGetSome` is the only step that makes a termination pending: of the receiver it found registered -/
theorem Step.term_from {c σ a σ'} (h : Step c σ a σ') {j g : Tok} (hj : (σ'.inc j).rpc = .term g) :
    (σ.inc j).rpc = .term g ∨ ((σ.inc j).rpc = .start ∧ aget σ.cancels (σ.inc j).shard = some g) := by
  cases ha : a.movesRecv
  · exact .inl (by simpa only [h.recvSame ha] using hj)
  · cases h <;> first
      | exact Bool.noConfusion ha
      | (revert hj; simp <;> crush)

end S2S.Registry
