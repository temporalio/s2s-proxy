import S2S.Proofs.RoutingTightMain
/-!
The tight statement is at least as strong as the loose one: along any run, `passedOf t ⊆ lostOf t`, so the tight excuse
implies the loose excuse; the two environment hypotheses coincide.
-/
namespace S2S.Routing

/-- the relation between the two ghosts: only lost tasks are ever passed -/
def PassedSubLost (γ : GhostT) : Prop := ∀ t a, a ∈ γ.passedOf t → a ∈ γ.g.lostOf t

instance (γ : GhostT) : Decidable (PassedSubLost γ) :=
  decidable_of_iff (∀ q ∈ γ.passed, ∀ a ∈ γ.passedOf q.1, a ∈ γ.g.lostOf q.1) (by
    constructor
    · intro h t a ha
      unfold GhostT.passedOf at ha
      cases hg : aget γ.passed t with
      | none => rw [hg] at ha; cases ha
      | some l =>
        have hm := aget_some_mem hg
        exact h (t, l) hm a ha
    · intro h q _ a ha; exact h q.1 a ha)

theorem passedSubLost_init : PassedSubLost {} := by
  intro t a ha; cases ha

theorem ghostT_next_g (c : Cfg) (σ : State) (γ : GhostT) (a : Act) : (γ.next c σ a).g = γ.g.next c σ a := by
  cases hs : step c σ a with
  | none => rw [ghostT_next_none γ hs, ghost_next_none γ.g hs]
  | some σ' => rw [ghostT_next_of_step γ hs, ghost_next_of_step γ.g hs, GhostT.upd_g]

theorem passedSubLost_next {γ : GhostT} (h : PassedSubLost γ) (c : Cfg) (σ : State) (a : Act) :
    PassedSubLost (γ.next c σ a) := by
  cases hs : step c σ a with
  | none => rw [ghostT_next_none γ hs]; exact h
  | some σ' =>
    rw [ghostT_next_of_step γ hs]
    intro t x hx
    rw [GhostT.upd_g]
    apply lostOf_upd_mono
    rcases GhostT.upd_cases σ γ a with e | ⟨t0, m, e⟩ <;> rw [e] at hx
    · exact h t x hx
    · exact (mem_passedOf_pass.1 hx).elim (h t x) fun hx => hx.1 ▸ hx.2.1

theorem excusedT_excused {σ : State} {γ : GhostT} (h : PassedSubLost γ) {s : SId} {p : Int × TId}
    (he : ExcusedT σ γ s p) : Excused σ γ.g s p :=
  he.imp_right (h p.2 _)

theorem ackStepSafeT_F {σ σ' : State} {γ' : GhostT} (h : PassedSubLost γ') (hs : AckStepSafeT σ σ' γ') :
    AckStepSafeF σ σ' γ'.g :=
  fun s hsl v hv p hp hlt => (hs s hsl v hv p hp hlt).imp_right (excusedT_excused h)

theorem acksSafeT_F (c : Cfg) (σ : State) (γ : GhostT) (acts : List Act) (hrel : PassedSubLost γ)
    (h : AcksSafeTAlong c σ γ acts) : AcksSafeFAlong c σ γ.g acts := by
  fun_induction AcksSafeTAlong c σ γ acts with
  | case1 => trivial
  | case2 σ γ a rest σ' hstep ih =>
    have hrel' := passedSubLost_next hrel c σ a
    rw [AcksSafeFAlong, hstep, ← ghostT_next_g]
    exact ⟨ackStepSafeT_F hrel' h.1, ih hrel' h.2⟩
  | case3 σ γ a rest hstep ih =>
    rw [AcksSafeFAlong, hstep]
    exact ih hrel h

theorem envOKT_iff_F (c : Cfg) (σ : State) (γ : GhostT) (acts : List Act) :
    EnvOKT c σ γ acts ↔ EnvOKF c σ γ.g acts := by
  induction acts generalizing σ γ with
  | nil => exact Iff.rfl
  | cons a rest ih =>
    unfold EnvOKT EnvOKF
    rw [ih, ghostT_next_g]
    exact Iff.rfl

end S2S.Routing
