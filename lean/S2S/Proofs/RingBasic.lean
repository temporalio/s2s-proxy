import S2S.Spec.Ring
/-!
Physical-ring lemmas: what the primitives of the model (`ensureCapacity`, a write at the tail, `discard`) do to the
logical contents `Buf.items`, to `start`, `size` and to the structural invariant `Buf.WF`; `append` is taken apart
into them (`append_eq`) and keeps `WF`.
-/
namespace S2S.Ring

theorem mod_ne_of_lt {cap h i j : Nat} (hij : i < j) (hj : j < cap) :
    (h + i) % cap ≠ (h + j) % cap := by
  intro heq
  have h1 := Nat.sub_mod_eq_zero_of_mod_eq heq.symm
  rw [Nat.add_sub_add_left, Nat.mod_eq_of_lt (Nat.lt_of_le_of_lt (Nat.sub_le _ _) hj)] at h1
  exact Nat.sub_ne_zero_of_lt hij h1

theorem clamp_eq_min (n m : Nat) : (if n > m then m else n) = min n m := by
  split <;> omega

@[simp] theorem items_length (b : Buf) : b.items.length = b.size := by
  simp [Buf.items]

theorem items_getElem (b : Buf) (i : Nat) (h : i < b.items.length) : b.items[i] = b.at i := by
  simp [Buf.items]

theorem items_eq_of_at {b b' : Buf} (hs : b'.size = b.size)
    (hat : ∀ i, i < b.size → b'.at i = b.at i) : b'.items = b.items := by
  unfold Buf.items
  rw [hs]
  exact List.map_congr_left fun i hi => hat i (List.mem_range.1 hi)

theorem new_wf (c : Int) : (new c).WF := by
  unfold Buf.WF Buf.cap new
  simp only [List.length_replicate]
  split <;> omega

@[simp] theorem new_items (c : Int) : (new c).items = [] := by
  simp [Buf.items, new]

@[simp] theorem new_size (c : Int) : (new c).size = 0 := rfl
@[simp] theorem new_start (c : Int) : (new c).start = 0 := rfl

theorem ensureCapacity_of_lt {b : Buf} (h : b.size < b.cap) : b.ensureCapacity = b := by
  simp [Buf.ensureCapacity, h]

theorem ensureCapacity_size (b : Buf) : b.ensureCapacity.size = b.size := by
  unfold Buf.ensureCapacity; split <;> rfl

theorem ensureCapacity_start (b : Buf) : b.ensureCapacity.start = b.start := by
  unfold Buf.ensureCapacity; split <;> rfl

theorem ensureCapacity_spec {b : Buf} (hwf : b.WF) :
    b.ensureCapacity.WF ∧ b.ensureCapacity.items = b.items ∧
    b.ensureCapacity.size < b.ensureCapacity.cap := by
  by_cases h : b.size < b.cap
  · rw [ensureCapacity_of_lt h]; exact ⟨hwf, rfl, h⟩
  · obtain ⟨hc, hs, hh⟩ := hwf
    have hne : ¬ (b.cap * 2 = 0) := by omega
    unfold Buf.ensureCapacity
    rw [if_neg h, if_neg hne]
    unfold Buf.cap at hc hs h
    refine ⟨?_, items_eq_of_at rfl fun i hi => ?_, ?_⟩
    · simp only [Buf.WF, Buf.cap, List.length_map, List.length_range]; omega
    · have hlt : i < b.entries.length * 2 := by omega
      simp [Buf.at, Buf.cap, Nat.mod_eq_of_lt hlt, hlt, hi]
    · simp only [Buf.cap, List.length_map, List.length_range]; omega

theorem writeTail_size (b : Buf) (e : Entry) : (b.writeTail e).size = b.size + 1 := rfl
theorem writeTail_start (b : Buf) (e : Entry) : (b.writeTail e).start = b.start := rfl

theorem writeTail_cap (b : Buf) (e : Entry) : (b.writeTail e).cap = b.cap := by
  simp [Buf.writeTail, Buf.cap]

theorem writeTail_at_lt {b : Buf} (e : Entry) (hlt : b.size < b.cap) (i : Nat) (hi : i < b.size) :
    (b.writeTail e).at i = b.at i := by
  unfold Buf.at
  rw [writeTail_cap]
  simp only [Buf.writeTail, List.getD_eq_getElem?_getD]
  rw [List.getElem?_set_ne (mod_ne_of_lt hi hlt).symm]

theorem writeTail_at_size {b : Buf} (e : Entry) (hc : 0 < b.cap) :
    (b.writeTail e).at b.size = e := by
  have hlt : (b.head + b.size) % b.cap < b.entries.length := Nat.mod_lt _ hc
  unfold Buf.at
  rw [writeTail_cap]
  simp only [Buf.writeTail, List.getD_eq_getElem?_getD]
  rw [List.getElem?_set_self hlt]
  rfl

theorem writeTail_spec {b : Buf} (e : Entry) (hwf : b.WF) (hlt : b.size < b.cap) :
    (b.writeTail e).WF ∧ (b.writeTail e).items = b.items ++ [e] := by
  refine ⟨?_, ?_⟩
  · unfold Buf.WF
    rw [writeTail_cap, writeTail_size]
    exact ⟨hwf.1, hlt, hwf.2.2⟩
  · unfold Buf.items
    rw [writeTail_size, List.range_succ, List.map_append, List.map_singleton, writeTail_at_size e hwf.1]
    congr 1
    exact List.map_congr_left fun i hi => writeTail_at_lt e hlt i (List.mem_range.1 hi)

theorem appendTail_spec {b : Buf} (hwf : b.WF) (e : Entry) :
    (b.ensureCapacity.writeTail e).WF ∧ (b.ensureCapacity.writeTail e).items = b.items ++ [e] ∧
    (b.ensureCapacity.writeTail e).start = b.start := by
  obtain ⟨hwf3, hit3, hlt3⟩ := ensureCapacity_spec hwf
  obtain ⟨hwf4, hit4⟩ := writeTail_spec e hwf3 hlt3
  exact ⟨hwf4, by rw [hit4, hit3], by rw [writeTail_start, ensureCapacity_start]⟩

theorem fillHoles_wf (n : Nat) {b : Buf} (hwf : b.WF) : (b.fillHoles n).WF := by
  induction n generalizing b with
  | zero => exact hwf
  | succ n ih => exact ih (appendTail_spec hwf hole).1

/-- the buffer between the first `ensureCapacity` and the final `ensureCapacity; write`; the loop that fills the gap
    does not run when there is none -/
def Buf.mid (b : Buf) (p : Int) : Buf :=
  if b.size = 0 then { b with start := p } else b.fillHoles (p - (b.start + (b.size : Int))).toNat

theorem append_eq (b : Buf) (p : Int) (e : Entry) :
    b.append true p e = ((b.ensureCapacity.mid p).ensureCapacity).writeTail e := by
  simp only [Buf.append, Buf.mid, if_true]
  congr 3
  split
  · rfl
  · rw [show (p - _).toNat = 0 by omega]; rfl

theorem append_wf {b : Buf} (hwf : b.WF) (p : Int) (e : Entry) : (b.append true p e).WF := by
  have hwf1 := (ensureCapacity_spec hwf).1
  rw [append_eq]
  refine (appendTail_spec ?_ e).1
  unfold Buf.mid
  split
  · exact hwf1
  · exact fillHoles_wf _ hwf1

theorem discard_spec {b : Buf} (hwf : b.WF) (n : Int) :
    (b.discard n).WF ∧
    (b.discard n).items = b.items.drop (min n.toNat b.size) ∧
    (b.discard n).start = b.start + ((min n.toNat b.size : Nat) : Int) ∧
    (b.discard n).size = b.size - min n.toNat b.size := by
  unfold Buf.discard
  split
  · next hn => rw [show n.toNat = 0 by omega]; simp [hwf]
  · simp only [clamp_eq_min, and_true]
    obtain ⟨hcap, hs, hh⟩ := hwf
    refine ⟨⟨hcap, Nat.le_trans (Nat.sub_le _ _) hs, Nat.mod_lt _ hcap⟩, List.ext_getElem (by simp) fun i h1 h2 => ?_⟩
    rw [items_getElem, List.getElem_drop, items_getElem]
    simp only [Buf.at, Buf.cap, Nat.mod_add_mod, Nat.add_assoc]

theorem run_wf (ops : List Op) {b : Buf} (h : b.WF) : (b.run true ops).WF := by
  refine List.foldlRecOn (motive := Buf.WF) ops _ h fun b hb op _ => ?_
  cases op with
  | append p e => exact append_wf hb p e
  | aggregate w => exact hb
  | discard n => exact (discard_spec hb n).1

end S2S.Ring
