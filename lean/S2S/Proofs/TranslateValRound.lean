import S2S.Proofs.TranslateValId
import S2S.Proofs.TranslateValSkip
/-! C13 (value level): translating back with a matcher that undoes the first one on the visited names restores the
    object (up to the re-encoded marks). -/
namespace S2S.TranslateVal
open S2S.Translate S2S.NameMap
variable {α : Type} [DecidableEq α] {g : Graph} {tb : Tables} {X : Ext α} {mt mt' : α → α × Bool}

theorem roundtrip (hS : SkipStable g tb X mt) (hN : NameOnce g tb) :
    (∀ c (v : Val α), (∀ s ∈ namesStep g tb X c v, (app mt' (app mt s).1).1 = s) →
        unflag (nsStep g tb X mt' c (nsStep g tb X mt c v).1).1 = unflag v) ∧
    (∀ mode fds (l : List (Val α)), (∀ s ∈ namesFields g tb X mode fds l, (app mt' (app mt s).1).1 = s) →
        unflagL (visitNsFields g tb X mt' mode fds (visitNsFields g tb X mt mode fds l).1).1 = unflagL l) ∧
    (∀ mode (l : List (Val α)), (∀ s ∈ namesItems g tb X mode l, (app mt' (app mt s).1).1 = s) →
        unflagL (visitNsItems g tb X mt' mode (visitNsItems g tb X mt mode l).1).1 = unflagL l) := by
  apply nsStep_ind g tb X
  · intro c v e _ _; rw [e, e]
  · intro c s ni f hl hn
    rw [namesStep_str, hl] at hn
    rw [nsStep_str, hl]
    show unflag (nsStep g tb X mt' c (.str _)).1 = _
    rw [nsStep_str, hl]
    exact congrArg Val.str (nsStrStep_roundtrip hN ni f s (fun hp => hn s (by simp [hp])))
  · intro c ty fs hs ih hn
    rw [nsStep_msg hs, nsStep_msg (skips_stable hS hs), unflag_msg, unflag_msg, ih (by rwa [namesStep_msg hs] at hn)]
  · intro c l hs ih hn
    rw [nsStep_list hs, nsStep_list hs, unflag_list, unflag_list, ih (by rwa [namesStep_list hs] at hn)]
  · intro c l hs ih hn
    rw [nsStep_map hs, nsStep_map hs, unflag_map, unflag_map, ih (by rwa [namesStep_map hs] at hn)]
  · intro c k v hs ih hn
    rw [nsStep_kv hs, nsStep_kv hs, unflag_kv, unflag_kv, ih (by rwa [namesStep_kv hs] at hn)]
  · intro c re evs ho hl ih hn
    -- the shortcut did not skip the events, so it does not skip the translated events either: both passes walk them
    rw [namesStep_blobEv, ho, hl] at hn
    obtain ⟨re1, e1⟩ := nsStep_blobEv_fst (mt := mt) ho hl
    rw [e1]
    obtain ⟨re2, e2⟩ := nsStep_blobEv_fst (mt := mt') ho (hS.evs evs hl)
    rw [e2, unflag_blobEv, unflag_blobEv, ih hn]
  · intro mode vs _; rw [visitNsFields_nil, visitNsFields_nil]
  · intro mode fds _; rw [visitNsFields_nil', visitNsFields_nil']
  · intro mode f fds v vs ihv ihvs hn
    rw [namesFields_cons, List.forall_mem_append] at hn
    rw [visitNsFields_cons, visitNsFields_cons, unflagL_cons, unflagL_cons, ihv hn.1, ihvs hn.2]
  · intro mode _; rfl
  · intro mode v vs ihv ihvs hn
    rw [namesItems_cons, List.forall_mem_append] at hn
    rw [visitNsItems_cons, visitNsItems_cons, unflagL_cons, unflagL_cons, ihv hn.1, ihvs hn.2]

/-- one-to-one, and no non-empty name sent to the empty name: then the shortcut skips on the way back exactly what it
    skipped on the way out -/
theorem translateNs_roundtrip (m : List (α × α)) (hbi : newBiMap m = some m) (hE : MapNoNewEmpty X.empty m)
    (hN : tb.ns.contains g.nameField = false) (v : Val α)
    (hv : ∀ s ∈ visitedNames g tb X v, (∃ p ∈ m, p.1 = s) ∨ (∀ p ∈ m, p.2 ≠ s)) :
    unflag (translateNs g tb X (inverse m) (translateNs g tb X m v).1).1 = unflag v := by
  obtain ⟨hk, hvn⟩ := bimap_nodup m hbi
  rw [visitedNames_eq_step] at hv
  rw [translateNs_eq_step, translateNs_eq_step]
  apply (roundtrip (skipStable_of_map m hE) (nameOnce_of hN)).1 _ v
  intro s hs
  rw [app_look, app_look, look_fst, look_fst]
  exact translateName_inverse m hk hvn s (hv s hs)

end S2S.TranslateVal
