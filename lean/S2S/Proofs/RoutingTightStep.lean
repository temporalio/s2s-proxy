import S2S.Proofs.RoutingTightDef
import S2S.Proofs.RoutingFaultRecv
/-! The tight half of `InvT` (`Tight`) along the steps that are more than a line in `step_tight`, in the order of its walk;
    `take` is the step that moves lost tasks into `passed`, `breakTgt` the one that makes tasks lost. -/
namespace S2S.Routing

/-- every old value is `≤ M ≤` every new lost task -/
theorem PairT.of_recv {L L' N : Int → Prop} {M : Int} {s : SId} {t : TId} {x : Source} {tg : Target}
    (h : PairT L s t x tg) (hf : PairF N M s t x tg) {x' : Source}
    (hL : ∀ id, L' id → L id ∨ M ≤ id)
    (hlast : ∀ a, x.lastSentAck = some a → a ≤ M)
    (hseed : (∀ v, (t, v) ∈ x'.ackByTarget → (t, v) ∈ x.ackByTarget ∨ SafeN L' s tg v) ∧
      ∀ id, L' id → (aget x'.ackByTarget t).isSome = true)
    (ackChan : x'.ackChan = x.ackChan := by rfl) (lastSentAck : x'.lastSentAck = x.lastSentAck := by rfl) :
    PairT L' s t x' tg := by
  have hsafe : ∀ v, SafeN L s tg v → v ≤ M → SafeN L' s tg v := by
    intro v hv hvl id hr hlt
    rcases hL id hr with hr | hr
    · exact hv id hr hlt
    · omega
  exact ⟨fun p o hm => hsafe o (h.ring_lost p o hm) (hf.ring_le p o hm),
    fun todo d r e v hv => hsafe v (h.todo_safe todo d r e v hv) (hf.todo_safe todo d r e v hv).2,
    fun v hv => hsafe v (h.prev_safe v hv) (hf.prev_safe v hv).2,
    ackChan ▸ fun v hv => hsafe v (h.chan_safe v hv) (hf.chan_safe v hv).2,
    fun v hv => (hseed.1 v hv).elim (fun hv => hsafe v (h.abt_safe v hv) (hf.abt_safe v hv).2) id,
    lastSentAck ▸ fun a ha => hsafe a (h.last_safe a ha) (hlast a ha), hseed.2⟩

/-- both constructors of `recv`: a watermark batch is the case `tasks = []`, which seeds nothing -/
theorem tight_recv {σ : State} {γ : GhostT} (hI : InvT σ γ) {s : SId} {tasks : List (Int × TId)} {high : Int}
    (hok : RecvOK σ.targets.length (σ.src s) tasks high) (hfresh : RecvFresh σ γ.g s tasks)
    (hact : (σ.src s).active = true) (x' : Source) (hs : SrcS x')
    (hr : x'.received = (σ.src s).received ++ tasks)
    (habt : x'.ackByTarget = seed (σ.src s).ackByTarget (groupByOwner tasks))
    (ha : x'.active = (σ.src s).active := by rfl) (hch : x'.ackChan = (σ.src s).ackChan := by rfl)
    (hlsa : x'.lastSentAck = (σ.src s).lastSentAck := by rfl) :
    Tight (σ.setSrc s x') (γ.upd σ (.recv s tasks high)) := by
  -- the ghost moves for `s` only, and `Lost` of the other streams does not read what moved
  refine hI.tight.setSrc' (src_lt_of_active σ hact) (fun _ _ a => a)
    (fun s' t _ hp => hp.mono (fun _ hl => hl.of_eq)) hs fun t => ?_
  have hp := hI.tight.pair s t
  have hl {id} (hn : Lost (γ.upd σ (.recv s tasks high)) s t x' id) :
      Lost γ s t (σ.src s) id ∨ ((id, t) ∈ tasks ∧ γ.g.maxHighOf s ≤ id) :=
    (cur_recv hn.1 hr ha hfresh).imp_left (⟨·, hn.2⟩)
  have hseed := seed_safe (s := s) (tg := σ.tgt t) hok.1 (fun id hn => (hl hn).imp_right And.left) hp.seeded
  exact hp.of_recv (hI.f.pair s t) (fun id hn => (hl hn).imp_right And.right) (hI.f.src s).last_le
    (habt ▸ hseed.imp (fun h v hv => (h v hv).imp_right And.right) id) hch hlsa

theorem PcS.bcast_next (high : Int) (todo : List (TId × Nat)) (t : TId) : PcS (pcDrop (.bcast high) todo t) :=
  pcDrop_ind trivial fun _ => trivial

/-- two writes, the `pc` of the source first: no pair reads `pc` or `sendChan` -/
theorem tight_handoff {σ : State} {γ : GhostT} (H : Tight σ γ) {s : SId} {t : TId} {pc : RecvPc} (hpc : PcS pc)
    {m : Msg} (hm : MsgS m) : Tight ((σ.setSrc s { σ.src s with pc := pc }).setTgt t ((σ.tgt t).push m)) γ :=
  tight_setTgt (H.setSrc (x' := { σ.src s with pc := pc }) hpc fun t' => (H.pair s t').src_congr) t _
    (forall_push (H.tgt t) hm)

/-- what is handed off carries its largest id last because what was pending did -/
theorem tight_deliver {c : Cfg} {σ σ' : State} {γ : GhostT} (H : Tight σ γ) {s : SId} {t : TId}
    (st : Step c σ (.deliver s t) σ') : Tight σ' γ := by
  cases st with | @deliver _ _ pending ids hpc hids =>
  have hS : PcS (.deliver pending) := hpc ▸ H.src s
  refine tight_handoff H ?_ (hS t ids hids)
  refine pcDrop_ind trivial fun _ t' ids' hag => ?_
  rw [aget_filter_ne] at hag
  split at hag
  · cases hag
  · exact hS t' ids' hag

theorem lost_pass {γ : GhostT} {t : TId} {m : Msg} {s : SId} {t' : TId} {x : Source} {id : Int}
    (h : Lost (γ.pass t m) s t' x id) : Lost γ s t' x id :=
  ⟨h.1, h.2.1, fun hc => h.2.2 (mem_passedOf_pass.2 (.inl hc))⟩

theorem PairT.take {γ : GhostT} {s : SId} {t : TId} {x : Source} {tg : Target}
    (h : PairT (Lost γ s t x) s t x tg) (m : Msg) (tg' : Target)
    (hring : ∀ p o, (p, s, o) ∈ tg'.ring → (p, s, o) ∈ tg.ring ∨ (s = msgSrc m ∧ o ≤ msgHigh m))
    (ackPc : tg'.ackPc = tg.ackPc := by rfl) (prevAck : tg'.prevAck = tg.prevAck := by rfl)
    (confirmed : tg'.confirmed = tg.confirmed := by rfl) : PairT (Lost (γ.pass t m) s t x) s t x tg' := by
  have hs : ∀ v, SafeN (Lost γ s t x) s tg v → SafeN (Lost (γ.pass t m) s t x) s tg' v :=
    fun _ hv => hv.mono (fun _ hl => lost_pass hl) (fun _ hc => confirmed ▸ hc)
  refine (h.vals.imp hs (fun _ hl => lost_pass hl) ackPc prevAck rfl rfl rfl confirmed).toT (fun p o hm => ?_)
  rcases hring p o hm with hm | ⟨e, hle⟩
  · exact hs o (h.ring_lost p o hm)
  · exact fun id hl hlt => (hl.2.2 (mem_passedOf_pass.2 (.inr ⟨rfl, hl.2.1, e, Int.lt_of_lt_of_le hlt hle⟩))).elim

-- `σ.src s`, `σ.tgt t` stay folded: a failed unification of a changed record with them otherwise unfolds the lookup
attribute [local irreducible] State.src State.tgt in
theorem tight_take {c : Cfg} {σ σ' : State} {γ : GhostT} (H : Tight σ γ) {t : TId} (st : Step c σ (.take t) σ') :
    Tight σ' (γ.upd σ (.take t)) := by
  cases st with | @take _ m rest hst _ hch =>
  simp only [GhostT.upd, hch]
  refine H.setTgt' (tgt_lt_of_started σ hst) (fun _ _ a => a) (fun s t' _ hp => hp.mono (fun _ hl => lost_pass hl))
    (fun m' hm => H.tgt t m' ?_) (fun s => ?_)
  · rw [process_sendChan] at hm
    exact hch ▸ List.mem_cons_of_mem _ hm
  cases m with
  | tasks s0 ids =>
    refine (H.pair s t).take _ _ fun p o hm => (List.mem_append.1 hm).imp_right fun hm => ?_
    obtain ⟨⟨o', p'⟩, hz, e⟩ := List.mem_map.1 hm
    cases e
    exact ⟨rfl, H.tgt t (.tasks s ids) (hch ▸ List.mem_cons_self) o (List.of_mem_zip hz).1⟩
  | wm s0 w =>
    refine (H.pair s t).take _ _ fun p o hm => (List.mem_append.1 hm).imp_right fun hm => ?_
    cases List.mem_singleton.1 hm
    exact ⟨rfl, Int.le_refl _⟩

theorem PairT.tack {L : Int → Prop} {s : SId} {t : TId} {x : Source} {tg : Target}
    (h : PairT L s t x tg) (w : Int) (ta : List Int) :
    PairT L s t x { tg with
      targetAcks := ta
      confirmed := tg.confirmed ++ (tg.assigned.filter (fun a => a.2.2 < w)).map (fun a => (a.1, a.2.1))
      ackPc := tackPc tg w } := by
  exact (h.vals.tack w ta (fun v hv => hv.append) (fun p v _ hpr => (h.ring_lost p v hpr).append)).toT
    (fun p o hm => (h.ring_lost p o hm).append)

-- `σ.src s` stays folded (see `step_tight`); `State.tgt` cannot: the second write reads `(σ.setSrc ..).tgt t` as `σ.tgt t`
attribute [local irreducible] State.src in
/-- two writes, the source first, as `invF_ackFwd`: each write asks the same of every pair it touches -/
theorem tight_ackFwd {c : Cfg} {σ σ' : State} {γ : GhostT} (H : Tight σ γ) {t : TId} {s : SId}
    (st : Step c σ (.ackFwd t s) σ') : Tight σ' γ := by
  cases st with | @ackFwd _ _ todo d r v hpc hv hact =>
  have H₁ : Tight (σ.setSrc s { σ.src s with ackChan := (σ.src s).ackChan ++ [(t, v)] }) γ :=
    H.setSrc (H.src s) fun t' => ((H.pair s t').vals.fwd_src
      fun e => e ▸ (H.pair s t).todo_safe todo d r hpc v (aget_some_mem hv)).toT (H.pair s t').ring_lost
  exact H₁.setTgt (H.tgt t) fun s' => ((H₁.pair s' t).vals.fwd_tgt hpc
    fun e => e ▸ (H₁.pair s t).todo_safe todo d r hpc v (aget_some_mem hv)).toT (H₁.pair s' t).ring_lost

theorem PairT.rack {L : Int → Prop} {s : SId} {t : TId} {x : Source} {tg : Target} (h : PairT L s t x tg)
    {t0 : TId} {v0 : Int} {rest : List (TId × Int)} (hch : x.ackChan = (t0, v0) :: rest) (x' : Source)
    (hl : x'.lastSentAck = x.lastSentAck ∨
      ∃ m m', x'.lastSentAck = some m' ∧ minVal (aset x.ackByTarget t0 v0) = some m ∧ m' ≤ m)
    (h1 : x'.ackChan = rest := by rfl) (h2 : x'.ackByTarget = aset x.ackByTarget t0 v0 := by rfl) :
    PairT L s t x' tg :=
  (h.vals.rack (fun _ hv => hv) hch x' hl h1 h2).toT h.ring_lost

/-- the newly lost tasks were needed tasks, for which `InvF` holds the same clauses -/
theorem tight_breakTgt {σ : State} {γ : GhostT} (hI : InvT σ γ) {t : TId} (hreg : (σ.tgt t).registered = true) :
    Tight (σ.setTgt t (σ.tgt t).reset) (γ.upd σ (.breakTgt t)) := by
  refine hI.tight.setTgt' (tgt_lt_of_registered σ hreg) (fun _ _ a => a)
    (fun s t' e hp => hp.mono (fun id hl => hl.of_eq (hl := ?_))) nofun (fun s => ?_)
  · exact lostOf_upd_ne e
  · have hp := hI.tight.pair s t
    have hf := hI.f.pair s t
    have hsplit : ∀ id, Lost (γ.upd σ (.breakTgt t)) s t (σ.src s) id →
        Lost γ s t (σ.src s) id ∨ Need γ.g s t (σ.src s) id := fun id hn =>
      (Decidable.em ((s, id) ∈ γ.g.lostOf t)).imp (⟨hn.1, ·, hn.2.2⟩) (⟨hn.1, ·⟩)
    have hs : ∀ v, SafeN (Lost γ s t (σ.src s)) s (σ.tgt t) v → SafeN (Need γ.g s t (σ.src s)) s (σ.tgt t) v →
        SafeN (Lost (γ.upd σ (.breakTgt t)) s t (σ.src s)) s (σ.tgt t).reset v :=
      fun v h1 h2 id hn hlt => (hsplit id hn).elim (h1 id · hlt) (h2 id · hlt)
    exact ⟨nofun, nofun, nofun, fun v hv => hs v (hp.chan_safe v hv) (hf.chan_safe v hv).1,
      fun v hv => hs v (hp.abt_safe v hv) (hf.abt_safe v hv).1,
      fun a ha => hs a (hp.last_safe a ha) (hf.last_safe a ha),
      fun id hn => (hsplit id hn).elim (hp.seeded id) (hf.seeded id)⟩

end S2S.Routing
