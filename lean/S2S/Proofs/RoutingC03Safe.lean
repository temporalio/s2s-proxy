import S2S.Proofs.RoutingSrcStep
/-! The C03 safety invariant `Inv`, record by record, and its preservation by every fault-free step.  What a step does to the
acknowledgements of a source is read off `AF.step_src`: that gives the C03 safety statement at one step, and the history of a
source along a run. -/
namespace S2S.Routing

/-- whatever the receiver still has to hand over is `≤ L` -/
def PcOK (L : Int) : RecvPc → Prop
  | .idle => True
  | .bcast high _ => high ≤ L
  | .deliver pending => ∀ p ∈ pending, ∀ id ∈ p.2, id ≤ L

/-- one source record.  `inact`: a stream that is not running has never run (true only without faults: nothing stops a
    stream); `grave` likewise.  The other clauses bound what the record holds by `lastHigh`, the acknowledgements sent
    through `lastSentMin`, which the last one sent equals (`acks`, `lsa`, `lsm`) -/
structure SrcOK (x : Source) : Prop where
  inact : x.active = false → x = {}
  nonneg : 0 ≤ x.lastHigh
  acks : ∀ u ∈ x.acksSent, u ≤ x.lastSentMin
  lsa : ∀ a, x.lastSentAck = some a → a = x.lastSentMin
  lsm : x.lastSentMin ≤ x.lastHigh
  abt : ∀ p ∈ x.ackByTarget, p.2 ≤ x.lastHigh
  ach : ∀ p ∈ x.ackChan, p.2 ≤ x.lastHigh
  lwm : ∀ h, x.lastWatermark = some h → h ≤ x.lastHigh
  pcb : PcOK x.lastHigh x.pc
  grave : x.graveyard = []

/-- what a message carries for its source `s` is `≤ hi s` -/
def MsgOK (hi : SId → Int) : Msg → Prop
  | .tasks s ids => ∀ id ∈ ids, id ≤ hi s
  | .wm s h => h ≤ hi s

/-- what is being forwarded to a source `s` is `≤ hi s` -/
def AckPcOK (hi : SId → Int) : AckPc → Prop
  | .idle => True
  | .forwarding todo _ _ => ∀ p ∈ todo, p.2 ≤ hi p.1

/-- one target record: whatever it holds for a source `s` is `≤ hi s` -/
structure TgtOK (hi : SId → Int) (tg : Target) : Prop where
  ring : ∀ e ∈ tg.ring, e.2.2 ≤ hi e.2.1
  chan : ∀ m ∈ tg.sendChan, MsgOK hi m
  prev : ∀ p ∈ tg.prevAck, p.2 ≤ hi p.1
  apc : AckPcOK hi tg.ackPc

/-- the last exclusive high watermark each source received -/
def State.hi (σ : State) : SId → Int := fun s => (σ.src s).lastHigh

/-- every value associated with source `s` anywhere is `≤ lastHigh s` -/
structure Inv (σ : State) : Prop where
  srcs : ∀ s, SrcOK (σ.src s)
  tgts : ∀ t, TgtOK σ.hi (σ.tgt t)

theorem MsgOK.mono {hi hi' : SId → Int} (h : ∀ s, hi s ≤ hi' s) {m : Msg} (hm : MsgOK hi m) : MsgOK hi' m := by
  cases m with
  | tasks s ids => exact fun id hid => Int.le_trans (hm id hid) (h s)
  | wm s v => exact Int.le_trans hm (h s)

theorem AckPcOK.mono {hi hi' : SId → Int} (h : ∀ s, hi s ≤ hi' s) {a : AckPc} (ha : AckPcOK hi a) : AckPcOK hi' a := by
  cases a with
  | idle => trivial
  | forwarding todo d r => exact fun p hp => Int.le_trans (ha p hp) (h _)

theorem TgtOK.mono {hi hi' : SId → Int} (h : ∀ s, hi s ≤ hi' s) {tg : Target} (ht : TgtOK hi tg) : TgtOK hi' tg :=
  ⟨fun e he => Int.le_trans (ht.ring e he) (h _), fun m hm => (ht.chan m hm).mono h,
   fun p hp => Int.le_trans (ht.prev p hp) (h _), ht.apc.mono h⟩

theorem SrcOK.default : SrcOK {} := by
  refine ⟨fun _ => rfl, Int.le_refl _, ?_, ?_, Int.le_refl _, ?_, ?_, ?_, trivial, rfl⟩ <;> simp

theorem TgtOK.default (hi : SId → Int) : TgtOK hi {} := by
  refine ⟨?_, ?_, ?_, trivial⟩ <;> simp

theorem SrcOK.active {x : Source} (hS : SrcOK x) (h : x ≠ {}) : x.active = true :=
  eq_true_of_ne_false fun ha => h (hS.inact ha)

theorem SrcOK.active_of_pc {x : Source} (hS : SrcOK x) (h : x.pc ≠ .idle) : x.active = true :=
  hS.active (ne_of_apply_ne Source.pc h)

theorem SrcOK.replayWm {x : Source} (hS : SrcOK x) {inc : Nat} {h : Int} (hwm : x.replayWm inc = some h) :
    x.active = true ∧ x.lastWatermark = some h :=
  (Source.replayWm_cases hwm).resolve_right fun e => by rw [hS.grave] at e; cases e

theorem inact_of_active {x : Source} (h : x.active = true) : x.active = false → x = {} :=
  fun h' => nomatch h.symm.trans h'

theorem Inv.init (ns nt : Nat) : Inv (State.init ns nt) :=
  ⟨fun s => by rw [src_init]; exact SrcOK.default, fun t => by rw [tgt_init]; exact TgtOK.default _⟩

theorem Inv.setSrc {σ : State} (hI : Inv σ) {s : SId} {x : Source} (hx : SrcOK x)
    (hm : (σ.src s).lastHigh ≤ x.lastHigh) : Inv (σ.setSrc s x) :=
  ⟨forall_src_setSrc (P := fun _ => SrcOK) hx hI.srcs, fun t => (hI.tgts t).mono
    (rel_setSrc (R := fun _ a b => a.lastHigh ≤ b.lastHigh) (fun _ _ => Int.le_refl _) σ hm)⟩

theorem Inv.setTgt {σ : State} (hI : Inv σ) {t : TId} {y : Target} (hy : TgtOK σ.hi y) : Inv (σ.setTgt t y) :=
  ⟨hI.srcs, forall_tgt_setTgt (P := fun _ => TgtOK σ.hi) hy hI.tgts⟩

theorem Inv.setSrcTgt {σ : State} (hI : Inv σ) {s : SId} {x : Source} {t : TId} {y : Target} (hx : SrcOK x)
    (hm : (σ.src s).lastHigh = x.lastHigh) (hy : TgtOK σ.hi y) : Inv ((σ.setSrc s x).setTgt t y) := by
  refine (hI.setSrc hx (Int.le_of_eq hm)).setTgt ?_
  have : (σ.setSrc s x).hi = σ.hi := funext (src_proj_setSrc Source.lastHigh hm.symm)
  rw [this]; exact hy

theorem SrcOK.setPc {x : Source} (hS : SrcOK x) (hb : x.pc ≠ .idle) {pc : RecvPc} (hpc : PcOK x.lastHigh pc) :
    SrcOK { x with pc := pc } :=
  { hS with inact := inact_of_active (hS.active_of_pc hb), pcb := hpc }

theorem SrcOK.raise {x : Source} (hS : SrcOK x) (hact : x.active = true) (hidle : x.pc = .idle) {high : Int}
    (hle : x.lastHigh ≤ high) : SrcOK { x with lastHigh := high } :=
  { hS with
    inact := inact_of_active hact, nonneg := Int.le_trans hS.nonneg hle, lsm := Int.le_trans hS.lsm hle
    abt := fun p hp => Int.le_trans (hS.abt p hp) hle, ach := fun p hp => Int.le_trans (hS.ach p hp) hle
    lwm := fun h hh => Int.le_trans (hS.lwm h hh) hle, pcb := by rw [hidle]; trivial }

theorem TgtOK.push {hi : SId → Int} {tg : Target} {m : Msg} (hT : TgtOK hi tg) (hm : MsgOK hi m) :
    TgtOK hi (tg.push m) :=
  { hT with chan := forall_push hT.chan hm }

theorem TgtOK.process {hi : SId → Int} {tg : Target} {m : Msg} (hT : TgtOK hi tg) (hm : MsgOK hi m) :
    TgtOK hi (process tg m) := by
  cases m with
  | tasks s ids =>
    refine { hT with ring := List.forall_mem_append.2 ⟨hT.ring, fun e he => ?_⟩ }
    obtain ⟨⟨o, p⟩, hop, rfl⟩ := List.mem_map.1 he
    exact hm o (List.of_mem_zip hop).1
  | wm s h => exact { hT with ring := forall_mem_snoc hT.ring hm }

theorem TgtOK.tackPc {hi : SId → Int} {tg : Target} (hT : TgtOK hi tg) (w : Int) : AckPcOK hi (tackPc tg w) :=
  tackPc_ind trivial fun _ _ _ hq p hp => (hq p hp).elim (hT.prev p) fun ⟨_, _, h⟩ => hT.ring _ h

theorem SrcOK.tick {x : Source} (hS : SrcOK x) : SrcOK (tickSrc x) := by
  rw [tickSrc_eq]
  rcases tickSrc_acksSent x with e | ⟨a, hact, ha, e⟩
  · rw [e]; exact hS
  · rw [e]
    exact { hS with inact := inact_of_active hact, acks := forall_mem_snoc hS.acks (Int.le_of_eq (hS.lsa _ ha)) }

theorem TgtOK.tick {hi : SId → Int} {tg : Target} (hT : TgtOK hi tg) : TgtOK hi (tickTgt tg) := by
  rw [tickTgt_eq]; exact { hT with }

-- `σ.src s` / `σ.tgt t` stay folded: every arm copies clauses of the old record to the new one up to defeq, and a
-- failed attempt to unify the two records is otherwise paid by unfolding the lookup
attribute [local irreducible] State.src State.tgt in
theorem step_inv {c : Cfg} {σ σ' : State} {a : Act} (hI : Inv σ) (hr : StepEnv σ a) (hf : a.isFault = false)
    (h : step c σ a = some σ') : Inv σ' := by
  cases Step.of_step h with
  | recvWm s high hact hidle =>
    obtain ⟨-, -, -, hle⟩ := hr
    refine hI.setSrc { (hI.srcs s).raise hact hidle hle with
      inact := inact_of_active hact, lwm := fun h hh => by cases hh; exact Int.le_refl _, pcb := ?_ } hle
    show PcOK high (if _ then _ else _)
    split
    · trivial
    · exact Int.le_refl _
  | recvTasks s tasks high hact hidle =>
    have hS := (hI.srcs s).raise hact hidle hr.2.2.2
    obtain ⟨-, htasks, -, hle⟩ := hr
    have hids : ∀ {t ids}, (t, ids) ∈ groupByOwner tasks → ∀ id ∈ ids, id ≤ high := fun hg id hid =>
      Int.le_of_lt (htasks _ ((mem_groupByOwner hg).2 id hid)).2.2.1
    refine hI.setSrc { hS with inact := inact_of_active hact, abt := ?_, pcb := fun p hp => hids hp } hle
    cases c.seedAcks
    · exact hS.abt
    · refine forall_seed hS.abt fun t ids hg => ?_
      cases ids with
      | nil => exact hS.nonneg
      | cons a r => exact hids hg a List.mem_cons_self
  | bcastSend s t hpc =>
    have hpcb := hpc ▸ (hI.srcs s).pcb
    exact hI.setSrcTgt ((hI.srcs s).setPc (hpc ▸ nofun) (pcDrop_ind trivial fun _ => hpcb)) rfl
      ((hI.tgts t).push hpcb)
  | bcastDrop s t hpc =>
    have hpcb := hpc ▸ (hI.srcs s).pcb
    exact hI.setSrc ((hI.srcs s).setPc (hpc ▸ nofun) (pcDrop_ind trivial fun _ => hpcb)) (Int.le_refl _)
  | deliver s t hpc hids =>
    have hpcb := hpc ▸ (hI.srcs s).pcb
    exact hI.setSrcTgt ((hI.srcs s).setPc (hpc ▸ nofun)
      (pcDrop_ind trivial fun _ p hp => hpcb p (List.mem_filter.1 hp).1)) rfl
      ((hI.tgts t).push (hpcb _ (aget_some_mem hids)))
  | @take t m rest _ _ hch =>
    have hT := hI.tgts t
    obtain ⟨hm, hrest⟩ := List.forall_mem_cons.1 (hch ▸ hT.chan)
    exact hI.setTgt (TgtOK.process { hT with chan := hrest } hm)
  | tack t w =>
    have hT := hI.tgts t
    exact hI.setTgt { hT with apc := hT.tackPc w }
  | @ackFwd t s todo _ r v hpc hv hact =>
    have hS := hI.srcs s
    have hT := hI.tgts t
    have hapc := hpc ▸ hT.apc
    have hvle : v ≤ (σ.src s).lastHigh := hapc (s, v) (aget_some_mem hv)
    rw [setTgt_setSrc_comm]
    refine hI.setSrcTgt { hS with inact := inact_of_active hact, ach := forall_mem_snoc hS.ach hvle } rfl
      { hT with prev := ?_, apc := fun p hp => hapc p (List.mem_filter.1 hp).1 }
    cases r
    · exact hT.prev
    · exact forall_aset hT.prev hvle
  | ackFin t =>
    have hT := hI.tgts t
    exact hI.setTgt { hT with ring := fun e he => hT.ring e (List.mem_of_mem_drop he), apc := trivial }
  | rackQuiet s hact hch =>
    have hS := hI.srcs s
    obtain ⟨habt, hrest⟩ := forall_rack hch hS.abt hS.ach
    exact hI.setSrc { hS with inact := inact_of_active hact, abt := habt, ach := hrest } (Int.le_refl _)
  | @rackSend s t v rest m hact hch hm hge =>
    -- the minimum is an entry of `ackByTarget`, so the clamp of `sendAck` does not fire
    have hS := hI.srcs s
    obtain ⟨habt, hrest⟩ := forall_rack hch hS.abt hS.ach
    obtain ⟨tm, htm⟩ := minVal_mem hm
    have hmle : m ≤ (σ.src s).lastHigh := habt _ htm
    rw [clampAck_of_le hmle]
    exact hI.setSrc { hS with
      inact := inact_of_active hact
      acks := forall_mem_snoc (fun u hu => Int.le_trans (hS.acks u hu) hge) (Int.le_refl _)
      lsa := fun a ha => (Option.some.inj ha).symm, lsm := hmle, abt := habt, ach := hrest } (Int.le_refl _)
  | openSrc s hact =>
    have hd := (hI.srcs s).inact hact
    rw [hd]
    exact hI.setSrc { SrcOK.default with inact := nofun } (by rw [hd]; exact Int.le_refl _)
  | openTgt => exact hI.setTgt { TgtOK.default _ with }
  | @replaySend t s todo inc hw _ _ hwm =>
    have hm : MsgOK σ.hi (.wm s hw) := (hI.srcs s).lwm _ ((hI.srcs s).replayWm hwm).2
    exact hI.setTgt { (hI.tgts t).push hm with }
  | emit t | startTgt t | replaySkip t | replayDone t => exact hI.setTgt { hI.tgts t with }
  | tick =>
    have hhi : σ.tick.hi = σ.hi :=
      funext (src_proj_tick Source.lastHigh (fun x => by rw [tickSrc_eq]) σ)
    exact ⟨fun s => tick_src σ s ▸ (hI.srcs s).tick, fun t => tick_tgt σ t ▸ hhi ▸ (hI.tgts t).tick⟩
  | breakTgt => cases hf
  | breakSrc => cases hf

/-- a `rack` sends a value that is `≥ lastSentMin`, the keep-alive repeats `lastSentAck = lastSentMin`, which bounds every
    earlier acknowledgement -/
theorem step_monoBounded {c : Cfg} {σ σ' : State} {a : Act} (hI : Inv σ) (hI' : Inv σ')
    (h : step c σ a = some σ') : AckStepMonoBounded σ σ' := by
  intro s _ v hv
  have hS := hI.srcs s
  unfold newAcks at hv
  cases AF.step_src h s with
  | quiet r | recv _ _ r | openSrc r | breakSrc r => simp [r.acks] at hv
  | rack m r =>
    rw [r.acks, List.drop_left, List.mem_singleton] at hv
    subst hv
    have hge : (σ.src s).lastSentMin ≤ v := r.val.elim (·.1) fun e => by rw [e.1]; exact hS.lsm
    exact ⟨r.lsm ▸ (hI'.srcs s).lsm, fun u hu => Int.le_trans (hS.acks u hu) hge⟩
  | tick m r =>
    rw [r.acks, List.drop_left, List.mem_singleton] at hv
    rw [hv, r.high, hS.lsa m r.last]
    exact ⟨hS.lsm, hS.acks⟩

theorem mono_bounded_of_inv {c : Cfg} {σ : State} {acts : List Act} (hI : Inv σ)
    (henv : EnvOK c σ acts) (hnf : NoFaults acts) : MonoBoundedAlong c σ acts := by
  fun_induction MonoBoundedAlong c σ acts with
  | case1 => trivial
  | case2 σ a rest σ' hstep ih =>
    have hI' := step_inv hI henv.stepEnv (hnf a List.mem_cons_self) hstep
    exact ⟨step_monoBounded hI hI' hstep, ih hI' (by simpa [hstep] using henv.2) fun b hb => hnf b (List.mem_cons_of_mem _ hb)⟩
  | case3 σ a rest hstep ih => exact ih hI (by simpa [hstep] using henv.2) fun b hb => hnf b (List.mem_cons_of_mem _ hb)

theorem run_hist {c : Cfg} {σ : State} {acts : List Act} (hI : Inv σ) (H : ∀ s, (σ.src s).acksSent.Pairwise (· ≤ ·))
    (henv : EnvOK c σ acts) (hnf : NoFaults acts) (s : SId) : Late.SrcHist ((run c σ acts).src s) :=
  (run_induction_env (P := fun σ => Inv σ ∧ ∀ s, Late.SrcHist (σ.src s))
    (fun hP hr hf h =>
      have hI' := step_inv hP.1 hr hf h
      ⟨hI', fun s => Late.step_srcHist h hr hf (hP.2 s) (fun m _ e => (hI'.srcs s).lsa m e ▸ (hI'.srcs s).lsm)
        (hP.1.srcs s).inact⟩)
    ⟨hI, fun s => { hI.srcs s with sorted := H s }⟩ henv hnf).2 s

end S2S.Routing
