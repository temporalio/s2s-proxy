/-! A machine with a partial `step` runs a list of actions by skipping the disabled ones:
    `acts.foldl (fun s a => (step s a).getD s) s`; a total `step` is the instance `f s a := some (step s a)`. -/
namespace S2S

/-- `Q s r`: what is known at state `s` with the actions `r` still to run -/
theorem foldl_getD_induct₂ {σ α : Type} {f : σ → α → Option σ} {Q : σ → List α → Prop}
    (hnone : ∀ s a r, Q s (a :: r) → f s a = none → Q s r)
    (hsome : ∀ s a r s', Q s (a :: r) → f s a = some s' → Q s' r) (acts : List α) (s : σ) (h : Q s acts) :
    Q (acts.foldl (fun s a => (f s a).getD s) s) [] := by
  induction acts generalizing s with
  | nil => exact h
  | cons a r ih =>
    rw [List.foldl_cons]
    cases hs : f s a with
    | none => exact ih s (hnone s a r h hs)
    | some s' => exact ih s' (hsome s a r s' h hs)

theorem foldl_getD_induct {σ α : Type} {f : σ → α → Option σ} {P : σ → Prop}
    (hstep : ∀ s a s', P s → f s a = some s' → P s') (acts : List α) (s : σ) (h : P s) :
    P (acts.foldl (fun s a => (f s a).getD s) s) :=
  foldl_getD_induct₂ (Q := fun s _ => P s) (fun _ _ _ h _ => h) (fun s a _ s' h hs => hstep s a s' h hs) acts s h

end S2S
