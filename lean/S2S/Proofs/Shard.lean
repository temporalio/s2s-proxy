import S2S.Model.Shard
/-!
Lemmas for C07 (`S2S/Props/C07.lean`): the int32 model of `common.GCD` / `MapShardID` agrees with the
mathematical `Nat.gcd` / `(s - 1) % n + 1` whenever the numbers fit in int32 (`common.LCM` is `C07_lcm_correct`
itself).
-/
namespace S2S.Shard

theorem wrap32_id (x : Int) (h0 : -2147483648 ≤ x) (h1 : x < 2147483648) : wrap32 x = x := by
  unfold wrap32 two31 two32
  omega

theorem wrap32_natCast (x : Nat) (h : x < 2147483648) : wrap32 (x : Int) = (x : Int) :=
  wrap32_id _ (by omega) (by omega)

theorem gcdLoop_eq (fuel : Nat) : ∀ a b : Nat, b < fuel →
    gcdLoop fuel (a : Int) (b : Int) = ((Nat.gcd b a : Nat) : Int) := by
  induction fuel with
  | zero => intro a b h; omega
  | succ fuel ih =>
    intro a b h
    unfold gcdLoop
    by_cases hb : b = 0
    · subst hb; simp
    · have hb' : ¬ ((b : Int) = 0) := by omega
      rw [if_neg hb', ← Int.ofNat_tmod]
      have hlt : a % b < b := Nat.mod_lt _ (Nat.pos_of_ne_zero hb)
      rw [ih b (a % b) (by omega), ← Nat.gcd_rec]

theorem gcd32_eq (a b : Nat) (ha : 1 ≤ a) (hb : 1 ≤ b) :
    gcd32 (a : Int) (b : Int) = ((Nat.gcd a b : Nat) : Int) := by
  unfold gcd32
  have h0 : ¬ ((a : Int) = 0 ∨ (b : Int) = 0) := by omega
  rw [if_neg h0]
  by_cases hab : (a : Int) > (b : Int)
  · simp only [hab, if_true, Int.natAbs_natCast]
    rw [gcdLoop_eq _ b a (by omega)]
  · simp only [hab, if_false, Int.natAbs_natCast]
    rw [gcdLoop_eq _ a b (by omega), Nat.gcd_comm]

theorem dvd_lcm_of {a b n : Nat} (hn : n = a ∨ n = b) : n ∣ Nat.lcm a b := by
  rcases hn with rfl | rfl
  · exact Nat.dvd_lcm_left _ _
  · exact Nat.dvd_lcm_right _ _

theorem mapShardID_dvd (L n s : Nat) (hn : 1 ≤ n) (hd : n ∣ L)
    (hL : L < 2147483648) (hs1 : 1 ≤ s) (hs : s ≤ L) :
    mapShardID (L : Int) (n : Int) (s : Int) = some [(((s - 1) % n + 1 : Nat) : Int)] := by
  have hnL : n ≤ L := Nat.le_of_dvd (by omega) hd
  have hmod : Int.tmod (L : Int) (n : Int) = 0 := by
    rw [← Int.ofNat_tmod, Nat.mod_eq_zero_of_dvd hd]; rfl
  have hsid : wrap32 ((s : Int) - 1) = ((s - 1 : Nat) : Int) := by
    rw [wrap32_id _ (by omega) (by omega)]; omega
  have hr : (s - 1) % n < n := Nat.mod_lt _ (by omega)
  have hw (k : Nat) (hk : k < L) : wrap32 ((k : Int) + 1) = ((k + 1 : Nat) : Int) := wrap32_natCast (k + 1) (by omega)
  unfold mapShardID
  rw [if_neg (by omega : ¬ (n : Int) = 0), if_neg fun h => h.1 hmod]
  simp only [hsid]
  rw [if_neg (by omega : ¬ (L : Int) < n)]
  split
  · rw [← Int.ofNat_tmod, hw _ (by omega)]
  · rw [hw _ (by omega), Nat.mod_eq_of_lt (by omega)]
end S2S.Shard
