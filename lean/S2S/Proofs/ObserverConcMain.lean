import S2S.Proofs.ObserverConc
/-!
Concurrency clause of C20, main lemmas: one atomic `report` step on a well-formed state, the
closed form of every counter after a sequence of steps, permutation invariance of `sumAt`.
-/
namespace S2S.Observer
open S2S.Shard

theorem sumAt_nil (k : Nat) : sumAt k [] = 0 := rfl

theorem sumAt_cons (k : Nat) (idx v : Int) (rest : List (Int × Int)) :
    sumAt k ((idx, v) :: rest) = if idx = (k : Int) then v + sumAt k rest else sumAt k rest := by
  by_cases h : idx = (k : Int) <;> simp [sumAt, h]

theorem sumAt_append (k : Nat) (a b : List (Int × Int)) :
    sumAt k (a ++ b) = sumAt k a + sumAt k b := by
  simp [sumAt, List.sum_append]

theorem sumAt_perm (k : Nat) {l₁ l₂ : List (Int × Int)} (h : l₁.Perm l₂) :
    sumAt k l₁ = sumAt k l₂ :=
  ((h.filter _).map _).foldr_eq' (fun x _ y _ z => Int.add_left_comm y x z) 0

theorem sumAt_of_filter_eq (k : Nat) {l l' : List (Int × Int)}
    (h : l.filter (fun p => p.1 = (k : Int)) = l'.filter (fun p => p.1 = (k : Int))) :
    sumAt k l = sumAt k l' := by
  unfold sumAt; rw [h]

theorem sumAt_filter (k : Nat) (l : List (Int × Int)) :
    sumAt k (l.filter (fun p => p.1 = (k : Int))) = sumAt k l := by
  unfold sumAt; rw [List.filter_filter]; simp

theorem sumAt_rejected (k : Nat) (hk : (k : Int) ≤ maxObservedStreamIndex) (junk : List (Int × Int))
    (hj : ∀ p ∈ junk, ¬ Accepted p.1) : sumAt k junk = 0 := by
  have : junk.filter (fun p => p.1 = (k : Int)) = [] :=
    List.filter_eq_nil_iff.2 fun p hp e => hj p hp (by simp only [decide_eq_true_eq] at e; unfold Accepted; omega)
  rw [sumAt, this]; rfl

theorem sumAt_pairs (k : Nat) (streams : List Int) :
    sumAt k (streams.flatMap fun i => [(i, (1 : Int)), (i, (-1 : Int))]) = 0 := by
  induction streams with
  | nil => rfl
  | cons i rest ih =>
    rw [List.flatMap_cons, sumAt_append, ih]
    simp only [sumAt_cons, sumAt_nil]
    split <;> omega

theorem valsInt32_perm {l₁ l₂ : List (Int × Int)} (h : l₁.Perm l₂) (hv : ValsInt32 l₁) :
    ValsInt32 l₂ :=
  fun p hp => hv p (h.mem_iff.2 hp)

theorem valsInt32_tail {p : Int × Int} {rest : List (Int × Int)} (hv : ValsInt32 (p :: rest)) :
    ValsInt32 rest :=
  fun q hq => hv q (List.mem_cons_of_mem _ hq)

theorem valsInt32_filter (f : Int × Int → Bool) {l : List (Int × Int)} (hv : ValsInt32 l) :
    ValsInt32 (l.filter f) :=
  fun p hp => hv p (List.mem_filter.1 hp).1

theorem valsInt32_canonical (streams : List Int) (junk : List (Int × Int))
    (hj : ∀ p ∈ junk, ¬ Accepted p.1) :
    ValsInt32 ((streams.flatMap fun i => [(i, (1 : Int)), (i, (-1 : Int))]) ++ junk) := by
  intro p hp hacc
  rcases List.mem_append.1 hp with hp | hp
  · obtain ⟨i, _, hi⟩ := List.mem_flatMap.1 hp
    simp only [List.mem_cons, List.not_mem_nil, or_false] at hi
    rcases hi with hi | hi <;> subst hi <;> simp [IsInt32]
  · exact absurd hacc (hj p hp)

theorem report_step (o : Obs) (idx v : Int) (hfree : o.locked = false) (hwf : o.WF)
    (hv : Accepted idx → IsInt32 v) :
    ∃ o' r, report o idx v = some (o', r) ∧ o'.locked = false ∧ o'.WF ∧
      ∀ k : Nat, val o'.counters k =
        if idx = (k : Int) ∧ (k : Int) ≤ maxObservedStreamIndex
        then wrap32 (val o.counters k + v) else val o.counters k := by
  rcases report_cases o idx v with ⟨hna, h⟩ | ⟨hacc, ⟨hl, _⟩ | ⟨_, len', hle, hlt, h⟩⟩
  · exact ⟨o, _, h, hfree, hwf, fun k => (if_neg fun hk => hna (by omega)).symm⟩
  · rw [hfree] at hl; cases hl
  · refine ⟨_, _, h, hfree, ?_, ?_⟩
    · refine ⟨addCounter_cwf _ _ _ hwf.1 (hv hacc), ?_⟩
      intro p hp
      rcases addCounter_mem _ _ _ _ hp with hp | ⟨hp, _⟩
      · exact Nat.lt_of_lt_of_le (hwf.2 p hp) hle
      · show p.1 < len'
        omega
    · intro k
      show val (addCounter o.counters idx.toNat v) k = _
      by_cases hk : idx = (k : Int)
      · have hki : k = idx.toNat := by omega
        rw [if_pos ⟨hk, by have := hacc.2; omega⟩, hki]
        exact val_addCounter_eq _ _ _ hwf.1.1 (hv hacc)
      · rw [if_neg (fun hh => hk hh.1)]
        apply val_addCounter_ne
        have := hacc.1
        omega

theorem reports_cons_some {o o₁ : Obs} {idx v : Int} {r : ReportOutcome} {rest : List (Int × Int)}
    (h : report o idx v = some (o₁, r)) : reports o ((idx, v) :: rest) = reports o₁ rest := by
  simp only [reports, h]

theorem reports_spec (l : List (Int × Int)) (o : Obs) (hfree : o.locked = false) (hwf : o.WF)
    (hv : ValsInt32 l) :
    ∃ o', reports o l = some o' ∧ o'.locked = false ∧ o'.WF ∧
      ∀ k : Nat, val o'.counters k =
        if (k : Int) ≤ maxObservedStreamIndex
        then wrap32 (val o.counters k + sumAt k l) else val o.counters k := by
  induction l generalizing o with
  | nil =>
    refine ⟨o, rfl, hfree, hwf, ?_⟩
    intro k
    rw [sumAt_nil, Int.add_zero, wrap32_of_isInt32 (val_isInt32 _ hwf.1 k)]
    split <;> rfl
  | cons p rest ih =>
    obtain ⟨idx, v⟩ := p
    obtain ⟨o₁, r, h, hf₁, hwf₁, hval₁⟩ :=
      report_step o idx v hfree hwf (hv (idx, v) (List.mem_cons_self ..))
    obtain ⟨o', h', hf', hwf', hval'⟩ := ih o₁ hf₁ hwf₁ (valsInt32_tail hv)
    refine ⟨o', by rw [reports_cons_some h]; exact h', hf', hwf', ?_⟩
    intro k
    rw [hval' k, hval₁ k, sumAt_cons]
    by_cases hk : (k : Int) ≤ maxObservedStreamIndex <;> by_cases hik : idx = (k : Int) <;>
      simp only [hk, hik, and_self, and_false, false_and, if_true, if_false, wrap32_add_assoc]

theorem wf_init : Obs.WF {} :=
  ⟨⟨List.Pairwise.nil, fun _ hp => by cases hp⟩, fun _ hp => by cases hp⟩

end S2S.Observer
