import S2S.Proofs.MuxPoolBasic
/-! The inductive invariant of the mux pool model, its preservation by every step (any defects), and the limit it gives. -/
namespace S2S.MuxPool

/-- the connection the provider loop holds, and the stage it is in while held -/
def Phase.held : Phase → Option (Nat × Stage)
  | .haveConn c => some (c, .raw)
  | .haveSession c | .pinged c => some (c, .sessioned)
  | _ => none

theorem Phase.held_isAttempt {ph : Phase} {c : Nat} {s : Stage} (h : ph.held = some (c, s)) : s.isAttempt = true := by
  cases ph <;> cases h <;> rfl

structure Inv (σ : St) : Prop where
  /-- every permit is free, with the provider's attempt, with a registered or cleaned-up session, or lost -/
  cons   : σ.permits + σ.phase.inflight + σ.cntS Stage.isHeld + σ.lostPermits = σ.cap
  /-- the only connection that has neither failed nor been handed to the manager is the one the provider holds -/
  nAtt   : σ.cntS Stage.isAttempt = σ.phase.held.isSome.toNat
  /-- every dropped or abandoned connection took a permit with it -/
  nLost  : σ.cntS Stage.isLost ≤ σ.lostPermits
  /-- the provider's pointer is in range and the connection is in the stage the phase says -/
  ptr    : ∀ c s, σ.phase.held = some (c, s) → c < σ.conns.length ∧ (σ.conn c).stage = s
  /-- an open session sits on a connection whose stage admits one -/
  sessSt : ∀ x ∈ σ.conns, x.sessOpen = true → x.stage.maySess = true
  /-- before `Cancel` nothing is lost and the provider runs -/
  liveOk : σ.live = true → σ.lostPermits = 0 ∧ σ.phase ≠ .exited

theorem inv_init (n : Nat) (r : Role) : Inv (St.init n r) := by
  constructor <;> simp [St.init, St.cntS, Phase.inflight, Phase.held]

theorem Inv.liveOk_of {σ : St} (hi : Inv σ) {ph' : Phase} {l' : Nat} {lv' : Bool}
    (hlive : lv' = true → σ.live = true ∧ l' = σ.lostPermits ∧ ph' ≠ .exited) (hl : lv' = true) :
    l' = 0 ∧ ph' ≠ .exited :=
  have ⟨a, b, c⟩ := hlive hl
  ⟨b.trans (hi.liveOk a).1, c⟩

theorem inv_set {σ : St} (hi : Inv σ) {c : Nat} (hlen : c < σ.conns.length) {x' : Conn}
    {ph' : Phase} {p' l' ms' : Nat} {lv' mc' : Bool}
    (hcons : p' + ph'.inflight + (Stage.isHeld x'.stage).toNat + l'
              = σ.permits + σ.phase.inflight + (Stage.isHeld (σ.conn c).stage).toNat + σ.lostPermits)
    (hatt : ph'.held.isSome.toNat + (Stage.isAttempt (σ.conn c).stage).toNat
              = σ.phase.held.isSome.toNat + (Stage.isAttempt x'.stage).toNat)
    (hlost : σ.lostPermits + (Stage.isLost x'.stage).toNat ≤ l' + (Stage.isLost (σ.conn c).stage).toNat)
    (hptr : ∀ c' s, ph'.held = some (c', s) → (c' = c ∧ x'.stage = s) ∨ (c' ≠ c ∧ σ.phase.held = some (c', s)))
    (hso : x'.sessOpen = true → x'.stage.maySess = true)
    (hlive : lv' = true → σ.live = true ∧ l' = σ.lostPermits ∧ ph' ≠ .exited) :
    Inv { σ with permits := p', phase := ph', conns := σ.conns.set c x', muxSeq := ms', live := lv',
                 mgrClosed := mc', lostPermits := l' } := by
  -- a count and the old entry's bit make the old count and the new entry's bit: cancel the old bit
  have H := fun f => cntS_setConn x' f hlen
  -- the provider's pointer: either at the replaced entry, whose new stage is given, or elsewhere, where nothing changed
  have ptr c' s (hc' : ph'.held = some (c', s)) :
      c' < (σ.conns.set c x').length ∧ ((σ.setConn c x').conn c').stage = s := by
    rcases hptr c' s hc' with ⟨rfl, hx⟩ | ⟨hne, hp⟩
    · exact ⟨by simpa using hlen, by rw [conn_setConn_same hlen]; exact hx⟩
    · exact ⟨by simpa using (hi.ptr c' s hp).1, by rw [conn_setConn_of_ne hne]; exact (hi.ptr c' s hp).2⟩
  exact {
    cons := by
      have h := H Stage.isHeld
      have i := hi.cons
      simp only [St.cntS, St.setConn] at h i ⊢
      omega
    nAtt := Nat.add_right_cancel ((H Stage.isAttempt).trans (hi.nAtt ▸ hatt.symm))
    nLost := Nat.le_of_add_le_add_right (H Stage.isLost ▸ Nat.le_trans (Nat.add_le_add_right hi.nLost _) hlost)
    ptr := ptr
    sessSt := fun y hy => (mem_setConn (σ := σ) hy).elim (· ▸ hso) (hi.sessSt y)
    liveOk := hi.liveOk_of hlive }

theorem inv_same {σ : St} (hi : Inv σ) {ph' : Phase} {p' l' ms' : Nat} {lv' mc' : Bool}
    (hcons : p' + ph'.inflight + l' = σ.permits + σ.phase.inflight + σ.lostPermits)
    (hheld : ph'.held = σ.phase.held)
    (hlost : σ.lostPermits ≤ l')
    (hlive : lv' = true → σ.live = true ∧ l' = σ.lostPermits ∧ ph' ≠ .exited) :
    Inv { σ with permits := p', phase := ph', muxSeq := ms', live := lv', mgrClosed := mc', lostPermits := l' } :=
  { hi with
    cons := by have := hi.cons; simp only [St.cntS] at this ⊢; omega
    nAtt := hheld ▸ hi.nAtt
    nLost := Nat.le_trans hi.nLost hlost
    ptr := hheld ▸ hi.ptr
    liveOk := hi.liveOk_of hlive }

/-- `NewConnection` succeeded -/
theorem inv_push {σ : St} (hi : Inv σ) (hph : σ.phase = .acquired) :
    Inv { σ with phase := .haveConn σ.conns.length, conns := σ.conns ++ [{}] } := by
  -- the new entry is `raw`: counted by `isAttempt` only
  have H (f : Stage → Bool) : St.cntS { σ with phase := .haveConn σ.conns.length, conns := σ.conns ++ [{}] } f
      = σ.cntS f + (f .raw).toNat := by
    simp only [St.cntS, List.countP_append, List.countP_singleton]; cases f .raw <;> rfl
  exact {
    cons := by have := hi.cons; rw [hph] at this; rw [H]; exact this
    nAtt := by rw [H, hi.nAtt, hph]; rfl
    nLost := by rw [H]; exact hi.nLost
    ptr := by
      rintro c' s ⟨⟩
      simp [St.conn, List.getD]
    sessSt := fun y hy => (List.mem_append.1 hy).elim (hi.sessSt y) fun hy => by cases List.mem_singleton.1 hy; nofun
    liveOk := fun hl => ⟨(hi.liveOk hl).1, nofun⟩ }

theorem inv_conn {σ : St} (hi : Inv σ) {c : Nat} (hlen : c < σ.conns.length) {x' : Conn} {p' : Nat}
    (hcons : p' + (Stage.isHeld x'.stage).toNat = σ.permits + (Stage.isHeld (σ.conn c).stage).toNat)
    (hkeep : ((σ.conn c).stage.isAttempt || x'.stage.isAttempt) = true → x'.stage = (σ.conn c).stage)
    (hlost : (Stage.isLost x'.stage).toNat ≤ (Stage.isLost (σ.conn c).stage).toNat)
    (hso : x'.sessOpen = true → x'.stage.maySess = true) :
    Inv { σ.setConn c x' with permits := p' } := by
  refine inv_set hi hlen (ph' := σ.phase) (l' := σ.lostPermits) (ms' := σ.muxSeq) (lv' := σ.live) (mc' := σ.mgrClosed)
    (by omega) ?_ (Nat.add_le_add_left hlost _) ?_ hso (fun hl => ⟨hl, rfl, (hi.liveOk hl).2⟩)
  · by_cases h : ((σ.conn c).stage.isAttempt || x'.stage.isAttempt) = true
    · rw [hkeep h]
    · simp only [Bool.or_eq_true, not_or, Bool.not_eq_true] at h; rw [h.1, h.2]
  · exact fun c' s hc' => (Decidable.em (c' = c)).imp
      (fun e => ⟨e, by
        have := (hi.ptr c' s hc').2
        rw [e] at this; rw [hkeep (by rw [this, Phase.held_isAttempt hc']; rfl), this]⟩) fun e => ⟨e, hc'⟩

theorem Inv.noSess {σ : St} (hi : Inv σ) {c : Nat} (hlen : c < σ.conns.length) (hst : (σ.conn c).stage.maySess = false) :
    (σ.conn c).sessOpen = false := by
  cases h : (σ.conn c).sessOpen
  · rfl
  · rw [hi.sessSt _ (conn_mem hlen) h] at hst; cases hst

-- as attributes the unfoldings are looked up once, not at each of the frames' side conditions
attribute [local simp] St.setConn Conn.closeBoth Phase.inflight Phase.held Stage.isHeld Stage.isRegistered Stage.isCleaned
  Stage.isAttempt Stage.isLost Stage.maySess in
theorem inv_step {d : Defects} {σ σ' : St} {a : Act} (hi : Inv σ) (hs : Step d σ a σ') : Inv σ' := by
  cases hs with
  | connOk hp => exact inv_push hi hp
  -- the table is left alone
  | acquire | acquireFail | connErrDead | connErr | pingOk | cancel | onClose =>
    refine inv_same hi ?_ ?_ ?_ ?_ <;> simp [*] <;> try omega
  -- the provider acts on the connection it holds
  | sessErrDead hp | sessErr hp | sessOk hp | pingErrDead hp | pingErr hp | addDead hp | add hp =>
    obtain ⟨hlen, hst⟩ := hi.ptr _ _ (congrArg Phase.held hp)
    have hso := hi.noSess hlen
    refine inv_set hi hlen ?_ ?_ ?_ ?_ ?_ ?_ <;> simp [*] <;> try omega
    -- left over by `sessErr`: closed or not, the raw connection carries no open session
    all_goals (split <;> simp_all)
  -- an entry anywhere in the table changes
  | peerClose hlen => exact inv_conn hi hlen rfl (fun _ => rfl) (Nat.le_refl _) (by simp [Conn.closeBoth])
  | localClose hst hlen | cleanup hst hlen | release hst hlen =>
    have hso := hi.noSess hlen
    refine inv_conn hi hlen ?_ ?_ ?_ ?_ <;> simp [*]

theorem inv_run (d : Defects) (acts : List Act) {σ : St} (hi : Inv σ) : Inv (run d σ acts) :=
  run_induct inv_step acts σ hi

theorem inv_reach (d : Defects) (n : Nat) (r : Role) (acts : List Act) : Inv (run d (St.init n r) acts) :=
  inv_run d acts (inv_init n r)

theorem countP_le_add3 {α} (p q1 q2 q3 : α → Bool) (l : List α)
    (h : ∀ x ∈ l, p x = true → q1 x = true ∨ q2 x = true ∨ q3 x = true) :
    l.countP p ≤ l.countP q1 + l.countP q2 + l.countP q3 := by
  induction l with
  | nil => simp
  | cons x l ih =>
    have ih' := ih (fun y hy => h y (List.mem_cons_of_mem _ hy))
    simp only [List.countP_cons]
    by_cases hp : p x = true
    · rcases h x List.mem_cons_self hp with hq | hq | hq <;> rw [if_pos hp, if_pos hq] <;> omega
    · rw [if_neg hp]; omega

theorem cntS_registered_le_held (σ : St) : σ.registeredCount ≤ σ.cntS Stage.isHeld := by
  apply List.countP_mono_left
  intro x _ hx; simp [Stage.isHeld, hx]

theorem registered_le_cap {σ : St} (hi : Inv σ) : σ.registeredCount ≤ σ.cap := by
  have := cntS_registered_le_held σ
  have := hi.cons
  omega

theorem openSessions_le_cap {σ : St} (hi : Inv σ) : σ.openSessions ≤ σ.cap := by
  have h1 : σ.openSessions ≤ σ.cntS Stage.isAttempt + σ.cntS Stage.isHeld + σ.cntS Stage.isLost := by
    simp only [St.openSessions, St.cntS]
    apply countP_le_add3
    intro x hx hso
    have := hi.sessSt x hx hso
    cases hst : x.stage <;> simp [hst, Stage.maySess, Stage.isAttempt, Stage.isHeld, Stage.isRegistered, Stage.isLost] at this ⊢
  have h3 : σ.phase.held.isSome.toNat ≤ σ.phase.inflight := by
    cases σ.phase <;> simp [Phase.held, Phase.inflight]
  have := hi.cons; have := hi.nAtt; have := hi.nLost
  omega

end S2S.MuxPool
