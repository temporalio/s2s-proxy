import S2S.Proofs.RegistryEnd
/-!
C08: "at quiescence the registries hold exactly the newest live incarnation" — the invariants that say a live
incarnation's entries are there (nobody evicted or overwrote them without also terminating the stream), that the shutdown
signal and the order of incarnations are respected, and the last bundle, `InvAll` under `AllHyps`.  At the end the statements
of `Props/C08.lean` are read off the run invariants.  Which invariant speaks of which registry, what its step needs and which
bundle holds it is tabulated in DESIGN.md §10.4.
-/
namespace S2S.Registry

def InvAckOwn : State → Prop := InvOwns State.ackChans (Inc.owner RPc.holdsAck)

/-- a sender's goroutine exists only once the handler has started the receiver (no theorem of the tree reads this invariant) -/
def InvSR (σ : State) : Prop := ∀ i, (σ.inc i).spc ≠ .start → (σ.inc i).spc ≠ .done → (σ.inc i).rpc ≠ .start

/-- a receiver past its running phase has seen the shutdown signal -/
def InvDown (σ : State) : Prop :=
  ∀ i, i < σ.next → ((σ.inc i).rpc = .cleanCheck ∨ (σ.inc i).rpc = .cleanCancel ∨ (σ.inc i).rpc = .cleanActive ∨ (σ.inc i).rpc = .done) →
    σ.down i = true

/-- the newest sender of its shard that `holds` - every newer one is still `early` - is the one registered in `reg`, with
    the value `val` -/
def InvNewest {α : Type} (reg : State → List (Shard × α)) (val : Tok → Inc → α) (holds early : SPc → Prop) (σ : State) :
    Prop :=
  ∀ i, holds (σ.inc i).spc →
    (∀ j, i < j → j < σ.next → (σ.inc j).shard = (σ.inc i).shard → early (σ.inc j).spc) →
    aget (reg σ) (σ.inc i).shard = some (val i (σ.inc i))

/-- the newest sender that has set its channel (no newer one has started) holds `remoteSendChannels` -/
def InvS2 : State → Prop :=
  InvNewest State.sendChans (fun i _ => i) (fun p => p ≠ .start ∧ p ≠ .done) (· = .start)

/-- the newest sender that has added its shard holds `localShards` -/
def InvL2 : State → Prop :=
  InvNewest State.localShards (fun i x => (i, x.stamp)) (·.holdsLocal = true) fun p => p = .start ∨ p = .set

/-- once a newer receiver of the shard has begun, every older one is out: never started, cancelled, ended, or about to be cancelled -/
def InvSup (σ : State) : Prop :=
  ∀ i j, i < j → j < σ.next → (σ.inc i).shard = (σ.inc j).shard → (σ.inc j).rpc ≠ .start →
    (σ.inc i).rpc = .start ∨ (σ.inc i).cancelled = true ∨ (σ.inc i).rpc = .done ∨ (σ.inc j).rpc = .term i

theorem invAckOwn_step {c σ a σ'} (h : Step c σ a σ') (S : InvSerial σ) (F : InvFound σ) (I : InvAckOwn σ) :
    InvAckOwn σ' := by
  cases ha : a.movesRecv
  · intro i; simp only [Inc.owner, h.recvSame ha]; exact I i
  have w := @h.writes
  cases h with
  | rSetAck k hk | rForceAck k hk =>
    exact I.write (w _ _ _ rfl) (by simp [aget_aset]) (recv_clash S F (by simp [hk]))
  | rRmAckOwn k hk hown =>
    exact I.write (w _ _ _ rfl) (by simp) (I.other hown)
  | _ =>
    all_goals first
      | exact Bool.noConfusion ha
      | (clear w; refine I.frame (by simp) fun j => ?_; simp <;> crush)

theorem invSR_step {c σ a σ'} (h : step c σ a = some σ') (I : InvSR σ) : InvSR σ' := by
  replace h := Step.of_step h
  cases ha : a.movesSend
  · intro i
    simp only [h.sendSame ha]
    refine fun h1 h2 e => I i h1 h2 ?_
    -- no step but `open` puts a receiver at `start`
    cases hr : a.movesRecv
    · simpa only [h.recvSame hr] using e
    · cases h <;> first | exact Bool.noConfusion ha | exact Bool.noConfusion hr | (simp at e; revert e; crush)
  cases h with
  | _ =>
    all_goals first
      | exact Bool.noConfusion ha
      | (intro i h1 h2; simp at h1 h2 ⊢; have hI := I i; revert h1 h2; crush)

/-- `open` is excluded: it does not look at what the blank token held -/
theorem Step.down_mono {c σ a σ'} (h : Step c σ a σ') (ha : a.movesRecv = false) (j : Tok) (hd : σ.down j = true) :
    σ'.down j = true := by
  cases h <;> first | exact Bool.noConfusion ha | (simp [State.down] at hd ⊢ <;> crush)

theorem invDown_step {c σ a σ'} (h : Step c σ a σ') (hy : OpenOK σ a) (I : InvDown σ) : InvDown σ' := by
  cases ha : a.movesRecv
  · intro i hi hr
    simp only [h.recvSame ha] at hi hr
    exact h.down_mono ha i (I i hi hr)
  cases h with
  | «open» sh srv =>
    intro i hi hr
    have hI := I i
    simp [State.down] at hi hr hI ⊢
    by_cases e : σ.next = i <;> simp [e] at hr ⊢
    exact hI (by omega) hr
  | rOpenFail k ok hk hok => exact absurd hy hok
  | _ =>
    -- `rRmAck` enters the clean-up on the shutdown signal only: that is its guard, which `simp … at *` reaches
    all_goals first
      | exact Bool.noConfusion ha
      | (intro i hi hr; have hI := I i; simp [State.down] at *; revert hr; crush)

section
variable {α : Type} {reg : State → List (Shard × α)} {val : Tok → Inc → α} {holds early : SPc → Prop} {σ σ' : State} {k : Tok}

theorem InvNewest.frame (I : InvNewest reg val holds early σ) (B : InvBound σ) (hd : ¬ holds .done) (hn : σ.next ≤ σ'.next)
    (hr : ∀ i, holds (σ'.inc i).spc → aget (reg σ) (σ.inc i).shard = some (val i (σ.inc i)) →
      aget (reg σ') (σ.inc i).shard = some (val i (σ.inc i)))
    (hi : ∀ j, (holds (σ'.inc j).spc → holds (σ.inc j).spc) ∧ (j < σ.next → (σ'.inc j).shard = (σ.inc j).shard ∧
      val j (σ'.inc j) = val j (σ.inc j) ∧ (early (σ'.inc j).spc → early (σ.inc j).spc))) :
    InvNewest reg val holds early σ' := by
  intro i h1 hnew
  have h0 := (hi i).1 h1
  have hin : i < σ.next := lt_next_of_spc B fun e => hd (e ▸ h0)
  rw [((hi i).2 hin).1, ((hi i).2 hin).2.1]
  refine hr i h1 (I i h0 fun j hij hj hs => ((hi j).2 hj).2.2 (hnew j hij (by omega) ?_))
  rw [((hi j).2 hj).1, ((hi i).2 hin).1]; exact hs

/-- `k` registers (`sSet`, `sAdd`): it leaves `early` and takes the entry of its shard -/
theorem InvNewest.set (I : InvNewest reg val holds early σ) (B : InvBound σ) (hd : ¬ holds .done) (w : Writes reg k σ σ')
    (hreg : aget (reg σ') (σ.inc k).shard = some (val k (σ'.inc k))) (hk : (σ.inc k).spc ≠ .done)
    (hk' : ¬ early (σ'.inc k).spc) (hdis : ∀ p, holds p → ¬ early p)
    (hy : ∀ i, i < σ.next → k < i → (σ.inc i).shard = (σ.inc k).shard → early (σ.inc i).spc) :
    InvNewest reg val holds early σ' := by
  intro i h1 hnew
  by_cases e : k = i
  · subst e; rw [w.shard]; exact hreg
  rw [w.inc i e] at h1 ⊢
  by_cases hs : (σ.inc k).shard = (σ.inc i).shard
  · exfalso
    rcases Nat.lt_or_gt_of_ne e with hlt | hgt
    · -- k older than i: the order hypothesis says i is still early
      exact hdis _ h1 (hy i (lt_next_of_spc B fun e => hd (e ▸ h1)) hlt hs.symm)
    · -- k newer than i and registered by this step: i is not the newest that holds
      exact hk' (hnew k hgt (w.next ▸ lt_next_of_spc B hk) (by rw [w.shard, w.inc i e]; exact hs))
  · rw [w.reg _ hs]
    refine I i h1 fun j hij hj hsj => ?_
    have ej : k ≠ j := fun e' => hs (by rw [e', hsj])
    have := hnew j hij (w.next ▸ hj) (by rw [w.inc j ej, w.inc i e]; exact hsj)
    rwa [w.inc j ej] at this

end

theorem invS2_step {c σ a σ'} (h : Step c σ a σ') (hy : OrderOK σ a) (B : InvBound σ) (I : InvS2 σ) : InvS2 σ' := by
  cases ha : a.movesSend
  · intro i; simp only [h.sendSame ha]; exact I i
  have w := @h.writes
  cases h with
  | sSet k hk =>
    exact I.set B (by simp) (w _ _ _ rfl) (by simp [aget_aset]) (by simp [hk.1]) (by simp) (fun p h e => h.1 e)
      fun i hin hlt hs => by simpa using hy i hin hlt hs
  | sRmChanOwn k hk hown =>
    -- the deleter is the registered one, and it is leaving
    clear w
    refine I.frame B (by simp) (by simp) ?_ fun j => by simp <;> crush
    intro i h1 hI
    simp [aget_adel] at h1 ⊢
    refine ⟨?_, hI⟩
    intro hs; rw [← hs, hown] at hI; injection hI with e; subst e; simp at h1
  | _ =>
    all_goals first
      | exact Bool.noConfusion ha
      | (clear w
         exact I.frame B (by simp) (by simp) (by simp) fun j => by simp <;> crush)

theorem invL2_step {c σ a σ'} (h : Step c σ a σ') (hc2 : c.secondDelete = false) (hy : OrderOK σ a) (B : InvBound σ)
    (T : InvStamp σ) (I : InvL2 σ) : InvL2 σ' := by
  cases ha : a.movesSend
  · intro i; simp only [h.sendSame ha]; exact I i
  have w := @h.writes
  cases h with
  | sAdd k hk =>
    exact I.set B (by simp) (w _ _ _ rfl) (by simp [aget_aset]) (by simp [hk]) (by simp)
      (fun p h e => by rcases e with e | e <;> simp [e] at h) fun i hin hlt hs => by simpa using hy i hin hlt hs
  | sUnregOwn k v st hk hget hst =>
    -- the first delete matched the stamp: it was the deleter's own entry, and the deleter is leaving
    obtain rfl := T _ v st k hget (lt_next_of_spc B (by simp [hk])) rfl (by simp [hk]) hst.symm
    clear w
    refine I.frame B (by simp) (by simp) ?_ fun j => by simp <;> crush
    intro i h1 hI
    simp [aget_adel] at h1 ⊢
    refine ⟨?_, hI⟩
    intro hs
    rw [← hs, hget] at hI
    cases hI
    simp at h1
  -- since its fix the rest of `UnregisterShard` leaves the table alone
  | sUnregAgainDel k hk hsd => rw [hc2] at hsd; cases hsd
  | _ =>
    all_goals first
      | exact Bool.noConfusion ha
      | (clear w
         exact I.frame B (by simp) (by simp) (by simp) fun j => by simp <;> crush)

/-- `ht` is there for `rCancel`: a receiver about to cancel its predecessor stays where it is, or has cancelled it;
    `hn`: a step hands out at most the token `next`, to a receiver at `start` (`open`) -/
theorem InvSup.frame {σ σ' : State} (I : InvSup σ)
    (hi : ∀ j, j < σ.next → (σ'.inc j).shard = (σ.inc j).shard ∧ ((σ'.inc j).rpc = .start ↔ (σ.inc j).rpc = .start) ∧
      ((σ.inc j).cancelled = true → (σ'.inc j).cancelled = true) ∧ ((σ.inc j).rpc = .done → (σ'.inc j).rpc = .done))
    (ht : ∀ j g, j < σ.next → (σ.inc j).rpc = .term g → (σ'.inc j).rpc = .term g ∨ (σ'.inc g).cancelled = true)
    (hn : σ'.next = σ.next ∨ σ'.next = σ.next + 1 ∧ (σ'.inc σ.next).rpc = .start) : InvSup σ' := by
  intro i j hij hj hs hb
  have hjn : j < σ.next := by
    rcases hn with e | ⟨e, h⟩
    · omega
    · exact Nat.lt_of_le_of_ne (by omega) fun e' => hb (e' ▸ h)
  have hin : i < σ.next := by omega
  rw [(hi i hin).1, (hi j hjn).1] at hs
  rcases I i j hij hjn hs (mt (hi j hjn).2.1.2 hb) with h | h | h | h
  · exact Or.inl ((hi i hin).2.1.2 h)
  · exact Or.inr (Or.inl ((hi i hin).2.2.1 h))
  · exact Or.inr (Or.inr (Or.inl ((hi i hin).2.2.2 h)))
  · exact (ht j i hjn h).elim (fun h => Or.inr (Or.inr (Or.inr h))) (fun h => Or.inr (Or.inl h))

theorem invSup_step {c σ a σ'} (h : Step c σ a σ') (hy : RecvOK σ a) (hyo : OrderOK σ a) (C : InvC σ)
    (I : InvSup σ) : InvSup σ' := by
  cases ha : a.movesRecv
  · intro i j; simp only [h.recvSame ha]; exact I i j
  cases h with
  | rGetSome k g hk hget | rGetNone k hk hget =>
    intro i j hij hj hs hb
    simp at hj hs hb ⊢
    by_cases e1 : k = i
    · -- an older receiver starts after a newer one: excluded by the order hypothesis
      subst e1
      have e2 : ¬ k = j := by omega
      simp [e2] at hs hb ⊢
      have := hyo j hj hij hs.symm; simp at this; exact absurd this hb
    by_cases e2 : k = j
    · -- the newer receiver starts: every older one is outside its sections; a registered un-cancelled one is the one found
      subst e2
      simp [e1] at hs ⊢
      have ho2 := hy i (by omega) (fun e => e1 e.symm) hs
      simp at ho2
      cases hri : (σ.inc i).rpc <;> simp [hri] at ho2 ⊢
      all_goals (cases hci : (σ.inc i).cancelled <;> simp)
      all_goals (have hC := C i ⟨by simp [hri], Or.inl hci⟩)
      all_goals (rw [hs, hget] at hC; injection hC)
    · simp [e1, e2] at hs hb ⊢
      exact I i j hij hj hs hb
  | rCancelSelf k g hg hgk | rCancel k g hg hgk =>
    exact I.frame (fun j _ => by simp <;> crush) (fun j g' _ => by simp <;> crush) (by simp)
  | _ =>
    -- no other step takes a receiver away from `term g`
    all_goals first
      | exact Bool.noConfusion ha
      | exact I.frame (fun j _ => by simp <;> crush) (fun j g _ hg => .inl (by revert hg; simp <;> crush)) (by simp)

def AllHyps (σ : State) (a : Act) : Prop :=
  StampsOK σ a ∧ RecvOK σ a ∧ OpenOK σ a ∧ OrderOK σ a

instance (σ : State) (a : Act) : Decidable (AllHyps σ a) := by unfold AllHyps; exact inferInstance

structure InvAll (σ : State) : Prop extends InvOwn σ, InvEnd σ where
  ackOwn : InvAckOwn σ
  down : InvDown σ
  s2 : InvS2 σ
  l2 : InvL2 σ
  sup : InvSup σ

theorem invAll_init : InvAll State.init :=
  { invOwn_init, invEnd_init with
    ackOwn := fun _ h => by simp [inc_init] at h
    down := fun i hi _ => by simp [State.init] at hi
    s2 := fun _ h _ => by simp [inc_init] at h
    l2 := fun _ h => by simp [inc_init] at h
    sup := fun _ j _ hj _ _ => by simp [State.init] at hj }

theorem invAll_step {c σ a σ'} (h : Step c σ a σ') (hc : c.cleanupUnconditional = false) (hc2 : c.secondDelete = false)
    (hy : AllHyps σ a) (I : InvAll σ) : InvAll σ' :=
  have ⟨hStamps, hRecv, hOpen, hOrder⟩ := hy
  have B := I.u.bound
  have R' := invBase_step h hc hRecv I.toInvBase
  { invOwn_step h hc hc2 hStamps I.toInvOwn R', invEnd_step h hOpen I.toInvEnd R' with
    ackOwn := invAckOwn_step h I.serial I.found I.ackOwn
    down := invDown_step h hOpen I.down
    s2 := invS2_step h hOrder B I.s2
    l2 := invL2_step h hc2 hOrder B I.stamp I.l2
    sup := invSup_step h hRecv hOrder I.c I.sup }

theorem invAll_run {c : Cfg} (hc : c.cleanupUnconditional = false) (hc2 : c.secondDelete = false) (acts : List Act)
    (H : Along c AllHyps State.init acts) : InvAll (run c State.init acts) :=
  run_induct (H := AllHyps) (fun _ _ _ h hy I => invAll_step h hc hc2 hy I) acts State.init invAll_init H

section
variable {σ : State} {sh : Shard}

theorem InvU.send_empty (U : InvU σ) (hd : ∀ t, t < σ.next → (σ.inc t).shard = sh → (σ.inc t).spc = .done) :
    aget σ.sendChans sh = none :=
  Option.eq_none_iff_forall_ne_some.2 fun t hs =>
    have ⟨h1, h2, _, h4⟩ := U.send sh t hs
    h4 (hd t h1 h2)

theorem InvU.ack_empty (U : InvU σ) (hd : ∀ t, t < σ.next → (σ.inc t).shard = sh → (σ.inc t).rpc = .done) :
    aget σ.ackChans sh = none :=
  Option.eq_none_iff_forall_ne_some.2 fun t hs => by
    obtain ⟨h1, h2, h3⟩ := U.ack sh t hs
    simp [hd t h1 h2] at h3

theorem InvEnd.sender_empty (I : InvEnd σ) (hd : ∀ t, t < σ.next → (σ.inc t).shard = sh → (σ.inc t).spc = .done) :
    aget σ.localShards sh = none ∧ aget σ.sendChans sh = none := by
  refine ⟨Option.eq_none_iff_forall_ne_some.2 fun p hs => ?_, I.u.send_empty hd⟩
  obtain ⟨h1, h2, _, h4⟩ := I.loc sh p hs
  simp [hd _ h1 h2] at h4

/-- `hev`: no receiver of any shard is inside its start-up, so nothing is about to be evicted -/
theorem InvEnd.receiver_empty (I : InvEnd σ) (hd : ∀ t, t < σ.next → (σ.inc t).shard = sh → (σ.inc t).rpc = .done)
    (hev : ∀ j, j < σ.next → (σ.inc j).rpc = .done ∨ (σ.inc j).rpc = .running) :
    aget σ.ackChans sh = none ∧ aget σ.cancels sh = none ∧ aget σ.actives sh = none :=
  ⟨I.u.ack_empty hd,
   I.ce.none (fun t h1 h2 => by simp [hd t h1 h2]) fun j hj => by rcases hev j hj with e | e <;> simp [e],
   I.ae.none (fun t h1 h2 => by simp [hd t h1 h2]) fun j hj => by rcases hev j hj with e | e <;> simp [e]⟩

end

theorem empty_of_invEnd {σ : State} (I : InvEnd σ) (hd : AllDone σ) : Empty σ := fun _ =>
  have hs := I.sender_empty fun t h _ => (hd t h).1
  have hr := I.receiver_empty (fun t h _ => (hd t h).2) fun j h => .inl (hd j h).2
  ⟨hs.1, hs.2, hr⟩

theorem exact_of_invAll {σ : State} (I : InvAll σ) (hq : Quiescent σ) : Exact σ := by
  intro sh
  have hrq : ∀ t, t < σ.next → (σ.inc t).rpc = .done ∨ (σ.inc t).rpc = .running := fun t h => (hq t h).2.imp_right (·.1)
  have hs : (aget σ.localShards sh).map (·.1) = liveSender σ sh ∧ aget σ.sendChans sh = liveSender σ sh := by
    cases hl : liveSender σ sh with
    | none =>
      -- no sender of the shard runs, so at quiescence all of them have ended
      have h := I.sender_empty (sh := sh) fun t h1 h2 => (hq t h1).1.resolve_right fun hd => by
        have := newest_none hl t h1; simp [h2, hd.1] at this
      exact ⟨by rw [h.1]; rfl, h.2⟩
    | some i =>
      obtain ⟨hin, hp⟩ := newest_some hl
      obtain ⟨rfl, hrun⟩ := of_decide_eq_true hp
      have hdown : σ.down i = false := ((hq i hin).1.resolve_left (by simp [hrun])).2.1
      -- the receiver of a live sender is live too: had it ended it would have seen `down` (`InvDown`), the one flag both workers read
      obtain ⟨hri, -, hci⟩ := (hq i hin).2.resolve_left fun hd => by
        have := I.down i hin (.inr (.inr (.inr hd))); simp [hdown] at this
      -- so no newer incarnation of the shard exists: its receiver would have superseded this one's (`InvSup`)
      have hnone : ∀ j, i < j → j < σ.next → (σ.inc j).shard = (σ.inc i).shard → False := by
        intro j hij hj hs
        have := I.sup i j hij hj hs.symm
        rcases hrq j hj with e | e <;> simp [hri, hci, e] at this
      have hl2 := I.l2 i (by simp [hrun]) fun j hij hj hs => (hnone j hij hj hs).elim
      have hs2 := I.s2 i (by simp [hrun]) fun j hij hj hs => (hnone j hij hj hs).elim
      exact ⟨by rw [hl2]; rfl, hs2⟩
  have hr : aget σ.ackChans sh = liveReceiver σ sh ∧ aget σ.cancels sh = liveReceiver σ sh ∧
      aget σ.actives sh = liveReceiver σ sh := by
    cases hl : liveReceiver σ sh with
    | none =>
      -- no receiver of the shard runs, so at quiescence all of them have ended (and every receiver has ended or runs)
      exact I.receiver_empty (fun t h1 h2 => (hrq t h1).resolve_right fun hd => by
        have := newest_none hl t h1; simp [h2, hd] at this) hrq
    | some i =>
      obtain ⟨hin, hp⟩ := newest_some hl
      obtain ⟨rfl, hrun⟩ := of_decide_eq_true hp
      have hnc : (σ.inc i).cancelled = false := ((hq i hin).2.resolve_left (by simp [hrun])).2.2
      exact ⟨I.ackOwn i ⟨by simp [hrun], .inl hnc⟩, I.c i ⟨by simp [hrun], .inl hnc⟩, I.a i ⟨by simp [hrun], .inl hnc⟩⟩
  exact ⟨hs.1, hs.2, hr⟩

end S2S.Registry
