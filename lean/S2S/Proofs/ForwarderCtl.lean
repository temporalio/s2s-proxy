import S2S.Proofs.ForwarderBasic
/-!
C06 control invariant: how the program counters of the six goroutines, the latch, the contexts
and the `CloseSend` goroutine constrain each other in every reachable state.
-/
namespace S2S.Forwarder

structure Ctl (σ : State) : Prop where
  /-- only `forwardAcks` waits at a `CloseSend` guard -/
  guardOnlyI : σ.s.loop ≠ .guard
  /-- the deferred blocks set the latch -/
  latch_of : (σ.s.loop = .done ∨ σ.i.loop = .guard ∨ σ.i.loop = .done) → σ.latch = true
  /-- the `CloseSend` goroutine is started by `forwardAcks`' deferred block -/
  cs_idle : (σ.i.loop ≠ .guard ∧ σ.i.loop ≠ .done) → σ.cs = .idle
  guard_cs : σ.i.loop = .guard → (σ.cs = .calling ∨ σ.cs = .signalling)
  /-- the guard is left by the rendezvous; by the timer only if `CloseSend` hangs -/
  done_cs_exited : σ.i.loop = .done → σ.env.closeSendHangs = false → σ.cs = .exited
  /-- the handler's first move is `cancel()` -/
  handler_after_wait : σ.h ≠ .waiting → σ.outCtx = true
  returned_cancels : σ.h = .returned → σ.env.returnCancelsSrv = true → σ.srvCtx = true
  /-- a listener exits only on the latch -/
  lisExitS : σ.s.lis = .exited → σ.latch = true
  lisExitI : σ.i.lis = .exited → σ.latch = true

theorem Ctl.lisExit_latch {σ : State} (h : Ctl σ) : ∀ d, (σ.dir d).lis = .exited → σ.latch = true
  | .s => h.lisExitS
  | .i => h.lisExitI

theorem ctl_init (e : Env) : Ctl (State.init e) := by
  constructor <;> simp [State.init]

theorem Ctl.setDir {σ : State} {d : D} {x' : Dir} (h : Ctl σ)
    (hg : x'.loop = .guard ↔ (σ.dir d).loop = .guard) (hd : x'.loop = .done ↔ (σ.dir d).loop = .done)
    (hl : x'.lis = .exited → (σ.dir d).lis = .exited ∨ σ.latch = true) : Ctl (σ.setDir d x') := by
  cases h; cases d <;> simp only [State.dir] at hg hd hl <;> constructor <;> simp only [State.setDir, hg, hd, ne_eq] <;>
    first | assumption | exact fun e => (hl e).elim ‹_› id

theorem ctl_step {σ σ' : State} {a : Act} (h : Ctl σ) (hs : Step σ a σ') : Ctl σ' := by
  cases hs with
  | dir hd =>
    cases hd with
    | push | sendFail | stall | unstall => exact h.setDir .rfl .rfl .inl
    | lCheck => refine h.setDir .rfl .rfl ?_; simp_all
    | lRecv => exact h.setDir .rfl .rfl nofun
    | lHand _ hw => refine h.setDir ?_ ?_ nofun <;> simp [hw]
    | lQuit _ hlatch => exact h.setDir .rfl .rfl fun _ => .inr hlatch
    | rLatch hw | rClosed hw | rSend hw | rStop hw => refine h.setDir ?_ ?_ .inl <;> simp [hw]
  | iniCancel => exact { h with returned_cancels := fun _ _ => rfl }
  | shutdown => exact { h with }
  | tick hg _ hh =>
    exact { h with
      latch_of := fun _ => h.latch_of (.inr (.inl hg))
      cs_idle := fun e => absurd rfl e.2
      guard_cs := nofun
      done_cs_exited := fun _ e => by rw [hh] at e; cases e }
  | rDeferS =>
    exact { h with
      guardOnlyI := nofun
      latch_of := fun _ => rfl
      lisExitS := fun _ => rfl
      lisExitI := fun _ => rfl }
  | rDeferI =>
    exact { h with
      latch_of := fun _ => rfl
      cs_idle := fun e => absurd rfl e.1
      guard_cs := fun _ => .inl rfl
      done_cs_exited := nofun
      lisExitS := fun _ => rfl
      lisExitI := fun _ => rfl }
  | csUnblocked hc | csIgnored hc | csReturn hc =>
    exact { h with
      cs_idle := fun e => by have := h.cs_idle e; rw [hc] at this; cases this
      guard_cs := fun _ => .inr rfl
      done_cs_exited := fun e1 e2 => by have := h.done_cs_exited e1 e2; rw [hc] at this; cases this }
  | guardRecv _ hg =>
    exact { h with
      latch_of := fun _ => h.latch_of (.inr (.inl hg))
      cs_idle := fun e => absurd rfl e.2
      guard_cs := nofun
      done_cs_exited := fun _ _ => rfl }
  | hCancel => exact { h with handler_after_wait := fun _ => rfl, returned_cancels := nofun }
  | hReturn hc =>
    exact { h with handler_after_wait := fun _ => h.handler_after_wait (by rw [hc]; exact nofun), returned_cancels := fun _ e => by rw [e, Bool.or_true] }

theorem ctl_reach (e : Env) (acts : List Act) : Ctl (run (State.init e) acts) :=
  run_induct ctl_step acts _ (ctl_init e)

end S2S.Forwarder
