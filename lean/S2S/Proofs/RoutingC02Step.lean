import S2S.Proofs.RoutingC02Inv
/-!
C02, the step: every non-fault action preserves `Inv`.  The pipeline equation moves in two places: `deliver` takes the
sub-batch for `t` out of the pending set and puts it into the channel (`Pipe.push`); `take` moves the head of the channel
into what the sender has processed (`Pipe.take`).  Everywhere else a `frame` lemma applies: the fields the invariant reads
are unchanged.  At the end, what the equation leaves once nothing is on its way.
-/
namespace S2S.Routing

theorem SrcInv.recv {x x' : Source} {nt : Nat} {tasks : List (Int × TId)} {high : Int}
    (hx : SrcInv x) (hok : RecvOK nt x tasks high)
    (ha : x'.active = true) (hl : x'.lastHigh = high) (hr : x'.received = x.received ++ tasks) :
    SrcInv x' := by
  obtain ⟨hinc, hall, _, hle⟩ := hok
  constructor
  · intro h; rw [ha] at h; cases h
  · rw [hr, hl]
    exact List.forall_mem_append.2 ⟨fun p hp => Int.lt_of_lt_of_le (hx.lt p hp) hle, fun p hp => (hall p hp).2.2.1⟩
  · rw [hr, List.map_append, List.pairwise_append]
    refine ⟨hx.pw, hinc.pairwise, ?_⟩
    simp only [List.forall_mem_map]
    exact fun p hp q hq => Int.lt_of_lt_of_le (hx.lt p hp) (hall q hq).2.1

theorem Pipe.recv {s : SId} {t : TId} {x x' : Source} {tg : Target} {tasks : List (Int × TId)}
    (hp : Pipe s t x tg) (hpc : x.pc = .idle) (hr : x'.received = x.received ++ tasks)
    (hpend : pendSeg x'.pc t = ownedIds tasks t) : Pipe s t x' tg := by
  unfold Pipe Source.sentTo at *
  rw [hpc] at hp
  rw [hr, hpend, List.filter_append, List.map_append, hp]
  simp [pendSeg, ownedIds]

theorem pendSeg_bcast_ite (c : Prop) [Decidable c] (h : Int) (l : List (TId × Nat)) (t : TId) :
    pendSeg (if c then .idle else .bcast h l) t = [] := by split <;> rfl

theorem Pipe.push {s : SId} {t : TId} {x x' : Source} {tg : Target} {m : Msg} (h : Pipe s t x tg)
    (hr : x'.received = x.received) (hp : ofS s [m] ++ pendSeg x'.pc t = pendSeg x.pc t) : Pipe s t x' (tg.push m) := by
  unfold Pipe Source.sentTo at *
  rw [hr, h, ← hp, ofS_push]
  simp only [List.append_assoc]
  rfl

theorem TgtInv.push {tg : Target} (h : TgtInv tg) (hreg : tg.registered = true) (m : Msg) : TgtInv (tg.push m) :=
  h.frameReg hreg rfl rfl rfl

theorem full_process (tg : Target) (m : Msg) (hh : tg.holding = none) :
    (process tg m).full = tg.full ++ [emitOf tg.nextProxyId m] := by
  simp [Target.full, process_stream, process_holding, hh]

theorem TgtInv.take {tg : Target} (htg : TgtInv tg) (hreg : tg.registered = true)
    (hh : tg.holding = none) (m : Msg) : TgtInv (process tg m) := by
  have hf := full_process tg m hh
  obtain ⟨hwf, hL, hM⟩ := emitOf_wf tg.nextProxyId m _ _ htg.endL htg.endM
  constructor
  · intro hc; rw [process_registered, hreg] at hc; cases hc
  · intro e he
    rw [process_holding] at he
    cases he
    exact emitOf_keepalive _ _
  · rw [hf]; exact forall_mem_snoc htg.lens (emitOf_lens _ _)
  · rw [hf, streamWF_append]
    exact ⟨htg.wf, hwf⟩
  · rw [hf, endState_append, process_nextProxyId]; exact hL
  · rw [hf, endState_append, process_nextProxyId]; exact hM

theorem Pipe.take {s : SId} {t : TId} {x : Source} {tg tg0 : Target} {m : Msg}
    (hp : Pipe s t x tg) (hh : tg.holding = none) (hch : tg.sendChan = m :: tg0.sendChan)
    (hh0 : tg0.holding = tg.holding := by rfl) (hs0 : tg0.stream = tg.stream := by rfl)
    (hn : tg0.nextProxyId = tg.nextProxyId := by rfl) : Pipe s t x (process tg0 m) := by
  have hf : (process tg0 m).full = tg.full ++ [emitOf tg.nextProxyId m] := by
    rw [full_process _ m (hh0.trans hh), Target.full_congr hh0 hs0, hn]
  unfold Pipe at *
  rw [hf, process_sendChan, delOf_append, delOf_emitOf, hp, hch]
  have : ofS s (m :: tg0.sendChan) = ofS s [m] ++ ofS s tg0.sendChan := ofS_append s [m] _
  rw [this]
  simp only [List.append_assoc]

theorem Inv.setTgt_frame {σ : State} (h : Inv σ) (t : TId) (tg' : Target)
    (hr : tg'.registered = (σ.tgt t).registered) (hst : tg'.started = (σ.tgt t).started)
    (hrt : tg'.replayTodo = (σ.tgt t).replayTodo) (hc : tg'.sendChan = (σ.tgt t).sendChan)
    (hh : tg'.holding = (σ.tgt t).holding) (hs : tg'.stream = (σ.tgt t).stream)
    (hn : tg'.nextProxyId = (σ.tgt t).nextProxyId) : Inv (σ.setTgt t tg') := by
  refine h.setTgt ?_ fun s => (h.pair s t).frame rfl rfl (Target.full_congr hh hs) (by rw [hc])
  refine (h.tgt t).frameFull ?_ (by rw [hh]; exact (h.tgt t).hold_ka) (Target.full_congr hh hs) hn
  rw [hr, hst, hrt, hc, hh, hs]
  exact (h.tgt t).unreg

theorem Inv.setSrc_frame {σ : State} (h : Inv σ) (s : SId) (x' : Source)
    (ha : x'.active = (σ.src s).active) (hp : x'.pc = (σ.src s).pc)
    (hl : x'.lastHigh = (σ.src s).lastHigh) (hr : x'.received = (σ.src s).received) :
    Inv (σ.setSrc s x') :=
  h.setSrc ((h.src s).frame ha hp hl hr) fun t => (h.pair s t).frame hr (by rw [hp]) rfl rfl

/-- `started` and the replay list are read by no clause but `unreg`, which a registered target voids; `tg` is a variable so
    that the arms of `step_inv` compare no two records of the state -/
theorem Inv.setReplay {σ : State} (h : Inv σ) {t : TId} {tg : Target} (htg : TgtInv tg)
    (hp : ∀ s, Pipe s t (σ.src s) tg) (hreg : tg.registered = true) (b r) :
    Inv (σ.setTgt t { tg with started := b, replayTodo := r }) :=
  h.setTgt (htg.frameReg hreg rfl rfl rfl) fun s => (hp s).frame rfl rfl rfl rfl

theorem SrcInv.tick {x : Source} (hx : SrcInv x) : SrcInv (tickSrc x) := by
  rw [tickSrc_eq]; exact hx.frame rfl rfl rfl rfl

theorem TgtInv.tick {tg : Target} (htg : TgtInv tg) : TgtInv (tickTgt tg) := by
  unfold tickTgt
  split
  · rename_i hc
    simp only [Bool.and_eq_true] at hc
    exact htg.frameReg (htg.reg_of_started hc.1.1) rfl (stream_append_keepalive tg.emitted _ rfl) rfl
  · exact htg

theorem Pipe.tick {s : SId} {t : TId} {x : Source} {tg : Target} (hp : Pipe s t x tg) :
    Pipe s t (tickSrc x) (tickTgt tg) := by
  refine hp.frame (by rw [tickSrc_eq]) (by rw [tickSrc_eq]) ?_ ?_
  · unfold tickTgt; split
    · exact Target.full_congr rfl (stream_append_keepalive tg.emitted _ rfl)
    · rfl
  · unfold tickTgt; split <;> rfl

theorem Inv.bcast {σ : State} {s : SId} {high : Int} {todo : List (TId × Nat)} (h : Inv σ)
    (hpc : (σ.src s).pc = .bcast high todo) (t : TId) :
    Inv (σ.setSrc s { σ.src s with pc := pcDrop (.bcast high) todo t }) := by
  refine h.setSrc ?_ fun t' => (h.pair s t').frame rfl ?_ rfl rfl
  · exact (h.src s).frameActive ((h.src s).active_of_pc (by rw [hpc]; nofun)) rfl rfl
  · rw [hpc]; exact pendSeg_bcast_ite _ _ _ _

-- `σ.src s` / `σ.tgt t` stay folded, so that comparing an old record with a new one fails at once instead of unfolding
-- the lookup
attribute [local irreducible] State.src State.tgt in
theorem step_inv {c : Cfg} {σ σ' : State} {a : Act} (h : Inv σ) (hok : StepEnv σ a)
    (hnf : a.isFault = false) (hstep : step c σ a = some σ') : Inv σ' := by
  cases Step.of_step hstep with
  | recvWm s high hact hpc =>
    exact h.setSrc ((h.src s).recv hok hact rfl (List.append_nil _).symm) fun t =>
      (h.pair s t).frame rfl (by rw [hpc, pendSeg_bcast_ite]; rfl) rfl rfl
  | recvTasks s tasks high hact hpc hne =>
    exact h.setSrc ((h.src s).recv hok hact rfl rfl) fun t =>
      (h.pair s t).recv hpc rfl (getD_aget_groupByOwner _ t)
  | @bcastSend s t high todo _ hpc hag hreg =>
    have h1 := h.bcast hpc t
    exact h1.setTgt ((h.tgt t).push hreg _) fun s' => (tgt_setSrc σ s _ t ▸ h1.pair s' t).push rfl rfl
  | bcastDrop s t hpc hag _ => exact h.bcast hpc t
  | @deliver s t pending ids hpc hag hreg _ =>
    have hne : (σ.src s).pc ≠ .idle := by rw [hpc]; nofun
    refine h.setBoth (src_lt_of_pc σ s hne) (tgt_lt_of_registered σ hreg) ?_ ?_ ?_ ?_ ?_
    · exact (h.src s).frameActive ((h.src s).active_of_pc hne) rfl rfl
    · exact (h.tgt t).push hreg _
    · refine (h.pair s t).push rfl ?_
      rw [hpc, pendSeg_filter, if_pos rfl]
      simp [pendSeg, hag, ofS]
    · intro t' ht'
      refine (h.pair s t').frame rfl ?_ rfl rfl
      rw [hpc]
      exact (pendSeg_filter _ _ _).trans (if_neg ht')
    · intro s' hs'
      exact (h.pair s' t).push rfl (by simp [ofS, Ne.symm hs'])
  | take t hst hh hch =>
    have hreg := (h.tgt t).reg_of_started hst
    refine h.setTgt (TgtInv.take ?_ ?_ ?_ _) fun s => (h.pair s t).take hh hch
    · exact (h.tgt t).frameReg hreg rfl rfl rfl
    · exact hreg
    · exact hh
  | @emit t e he =>
    have hreg := (h.tgt t).reg_of_holding (by rw [he]; nofun)
    have hka := (h.tgt t).hold_ka e he
    refine h.setTgt ?_ fun s => (h.pair s t).frame rfl rfl (Target.full_emit he hka) rfl
    exact (h.tgt t).frameFull (fun hc => by rw [hreg] at hc; cases hc) nofun (Target.full_emit he hka) rfl
  | openSrc s hact hs =>
    obtain ⟨hrec, hpc⟩ := (h.src s).inact hact
    exact h.setSrc ⟨nofun, fun p hp => (nomatch hrec ▸ hp), (h.src s).pw⟩ fun t =>
      (h.pair s t).frame rfl (by rw [hpc]) rfl rfl
  | openTgt t hreg ht =>
    obtain ⟨-, -, hch, hh, hstr⟩ := (h.tgt t).unreg hreg
    exact h.setTgt (.empty nofun rfl hstr (Int.le_refl 0)) fun s =>
      (h.pair s t).frame rfl rfl (Target.full_congr hh.symm rfl) (congrArg (ofS s) hch.symm)
  | replaySend t s hrt hag _ _ =>
    have hreg := (h.tgt t).reg_of_replayTodo (by rw [hrt]; nofun)
    exact h.setReplay ((h.tgt t).push hreg _) (fun s' => (h.pair s' t).push rfl rfl) hreg _ _
  | replaySkip t s hrt | replayDone t hrt =>
    exact h.setReplay (h.tgt t) (h.pair · t) ((h.tgt t).reg_of_replayTodo (by rw [hrt]; nofun)) _ _
  | startTgt t hreg => exact h.setReplay (h.tgt t) (h.pair · t) hreg _ _
  | tick => exact h.tick (fun _ _ => SrcInv.tick) (fun _ _ => TgtInv.tick) (fun _ _ _ _ => Pipe.tick)
  -- the acknowledgement path touches nothing the invariant reads
  | tack | ackFin => exact h.setTgt_frame _ _ rfl rfl rfl rfl rfl rfl rfl
  | rackSend | rackQuiet => exact h.setSrc_frame _ _ rfl rfl rfl rfl
  | ackFwd =>
    refine Inv.setSrc_frame (h.setTgt_frame _ _ ?_ ?_ ?_ ?_ ?_ ?_ ?_) _ _ ?_ ?_ ?_ ?_ <;> first | rfl | rw [src_setTgt]
  | breakTgt | breakSrc => cases hnf

theorem inv_reach {c : Cfg} (ns nt : Nat) (acts : List Act)
    (henv : EnvOK c (State.init ns nt) acts) (hnf : NoFaults acts) :
    Inv (run c (State.init ns nt) acts) :=
  run_induction_env step_inv (Holds.init ns nt (fun _ => SrcInv.default) (fun _ => TgtInv.default) fun _ _ => rfl) henv hnf

theorem pipe_split {σ : State} (h : Inv σ) (s : SId) (t : TId) :
    (σ.src s).sentTo t = (σ.tgt t).deliveredOf s ++
      (delOf s (σ.tgt t).holding.toList ++ ofS s (σ.tgt t).sendChan ++ pendSeg (σ.src s).pc t) := by
  have hp := h.pair s t
  unfold Pipe at hp
  rw [hp, Target.full, delOf_append, deliveredOf_eq_delOf]
  simp only [List.append_assoc]

theorem Inv.delivery_complete {σ : State} (h : Inv σ) {s : SId} {t : TId} (hd : Drained σ s t) :
    (σ.tgt t).deliveredOf s = (σ.src s).sentTo t := by
  unfold Drained drained at hd
  simp only [Bool.and_eq_true] at hd
  obtain ⟨⟨hpend, hchan⟩, hhold⟩ := hd
  have h1 : pendSeg (σ.src s).pc t = [] := by
    unfold pendSeg
    split
    · next hpc => rw [hpc] at hpend; rw [Option.isNone_iff_eq_none.1 hpend]; rfl
    · rfl
  have h3 : delOf s (σ.tgt t).holding.toList = [] := by
    cases hh : (σ.tgt t).holding with
    | none => rfl
    | some e =>
      rw [hh] at hhold
      rw [Option.toList_some, delOf_singleton]
      split
      · next hsrc =>
        have hl := (h.tgt t).lens e (by simp [Target.full, hh])
        simp only [hsrc, bne_self_eq_false, Bool.false_or, List.isEmpty_iff] at hhold
        rw [hhold] at hl
        exact List.eq_nil_of_length_eq_zero hl.symm
      · rfl
  rw [pipe_split h s t, h1, ofS_eq_nil_of_all s _ hchan, h3]
  simp

end S2S.Routing
