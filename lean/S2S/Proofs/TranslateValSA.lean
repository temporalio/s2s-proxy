import S2S.Proofs.TranslateValEq
/-! C14 / C13 (value level): the search-attribute visitor is the simultaneous renaming of the keys of the containers it
    reaches (values and everything else untouched), and translating back restores the object. -/
namespace S2S.TranslateVal
open S2S.Translate S2S.NameMap
variable {α : Type} [DecidableEq α] {g : Graph} {tb : Tables} {X : Ext α} {mt mt' : α → α × Bool} {ρ : α → α}

variable (g tb X mt) in
/-- `visitSa` / `visitSaItems .blobs` on a decoded blob in a recognised blob field (this visitor has no skip shortcut) -/
def saBlobStep (re : Bool) (evs : List (Val α)) : Val α × Bool :=
  blobResult re evs false (visitSaItems g tb X mt .plain evs)

/-- where visitSearchAttributes' callback finds a value: in the field `f` of a struct (`cont`: of a `*SearchAttributes`
    found in a search-attribute field), or as an element of a slice / map walked in `mode` -/
inductive SaCtx where
  | field (cont : Bool) (f : FieldD)
  | item (mode : SMode)

/-- the parent struct field, as `getParentFieldType` reports it -/
def SaCtx.fc : SaCtx → Option FieldD
  | .field _ f => some f
  | .item _ => none

variable (tb X) in
/-- how the entries of a map found here are walked: `translateIndexedFields` rebuilds it or not -/
def SaCtx.mapMode : SaCtx → SMode
  | .field cont f => if saRenField tb X cont f then .ren else .plain
  | .item _ => .plain

variable (tb) in
/-- how the elements of a slice found here are walked -/
def SaCtx.listMode (c : SaCtx) : SMode := if blobCtx tb c.fc then .blobs else .plain

/-- a map entry found here moves to its new key -/
def SaCtx.key : SaCtx → Bool
  | .item .ren => true
  | _ => false

variable (tb) in
/-- a blob found here is decoded -/
def SaCtx.opens : SaCtx → Bool
  | .field _ f => blobCtx tb (some f)
  | .item .blobs => true
  | .item _ => false

variable (g tb X mt) in
/-- visitSearchAttributes' callback on a value found in context `c`: (what it makes of it, matched) -/
def saStep (c : SaCtx) : Val α → Val α × Bool
  | .msg ty fs =>
    (.msg ty (visitSaFields g tb X mt (saNamed tb c.fc && saTyped c.fc) (g.typeD ty).fields fs).1,
     (visitSaFields g tb X mt (saNamed tb c.fc && saTyped c.fc) (g.typeD ty).fields fs).2)
  | .map es => (.map (visitSaItems g tb X mt (c.mapMode tb X) es).1, (visitSaItems g tb X mt (c.mapMode tb X) es).2)
  | .list l => (.list (visitSaItems g tb X mt (c.listMode tb) l).1, (visitSaItems g tb X mt (c.listMode tb) l).2)
  | .kv k w =>
    (.kv (if c.key then (app mt k).1 else k) (visitSa g tb X mt none w).1,
     (c.key && (app mt k).2) || (visitSa g tb X mt none w).2)
  | .blobEv re evs => if c.opens tb then saBlobStep g tb X mt re evs else (.blobEv re evs, false)
  | w => (w, false)

variable (g tb X ρ) in
/-- what the callback makes of a value when every key `k` is renamed to `ρ k` -/
def saSpecStep (c : SaCtx) : Val α → Val α
  | .msg ty fs => .msg ty (saSpecFields g tb X ρ (saNamed tb c.fc && saTyped c.fc) (g.typeD ty).fields fs)
  | .map es => .map (saSpecItems g tb X ρ (c.mapMode tb X) es)
  | .list l => .list (saSpecItems g tb X ρ (c.listMode tb) l)
  | .kv k w => .kv (if c.key then ρ k else k) (saSpecV g tb X ρ none w)
  | .blobEv re evs => if c.opens tb then .blobEv re (saSpecItems g tb X ρ .plain evs) else .blobEv re evs
  | w => w

variable (g tb X) in
/-- the keys the callback renames at and below a value -/
def saKeysStep (c : SaCtx) : Val α → List α
  | .msg ty fs => saKeysFields g tb X (saNamed tb c.fc && saTyped c.fc) (g.typeD ty).fields fs
  | .map es => saKeysItems g tb X (c.mapMode tb X) es
  | .list l => saKeysItems g tb X (c.listMode tb) l
  | .kv k w => (if c.key then [k] else []) ++ saKeysV g tb X none w
  | .blobEv _ evs => if c.opens tb then saKeysItems g tb X .plain evs else []
  | _ => []

section
omit [DecidableEq α]

theorem visitSaFields_cons (cont : Bool) (f : FieldD) (fds : List FieldD) (v : Val α) (vs : List (Val α)) :
    visitSaFields g tb X mt cont (f :: fds) (v :: vs) =
      ((saStep g tb X mt (.field cont f) v).1 :: (visitSaFields g tb X mt cont fds vs).1,
       (saStep g tb X mt (.field cont f) v).2 || (visitSaFields g tb X mt cont fds vs).2) := by
  cases v <;> rfl
theorem visitSaItems_cons (mode : SMode) (v : Val α) (vs : List (Val α)) :
    visitSaItems g tb X mt mode (v :: vs) =
      ((saStep g tb X mt (.item mode) v).1 :: (visitSaItems g tb X mt mode vs).1,
       (saStep g tb X mt (.item mode) v).2 || (visitSaItems g tb X mt mode vs).2) := by
  cases mode <;> cases v <;> rfl
theorem visitSa_eq_step (fc : Option FieldD) (v : Val α) :
    visitSa g tb X mt fc v = saStep g tb X mt (match fc with | some f => .field false f | none => .item .plain) v := by
  cases fc <;> cases v <;> rfl
theorem saSpecFields_cons (cont : Bool) (f : FieldD) (fds : List FieldD) (v : Val α) (vs : List (Val α)) :
    saSpecFields g tb X ρ cont (f :: fds) (v :: vs) = saSpecStep g tb X ρ (.field cont f) v :: saSpecFields g tb X ρ cont fds vs := by
  cases v <;> rfl
theorem saSpecItems_cons (mode : SMode) (v : Val α) (vs : List (Val α)) :
    saSpecItems g tb X ρ mode (v :: vs) = saSpecStep g tb X ρ (.item mode) v :: saSpecItems g tb X ρ mode vs := by
  cases mode <;> cases v <;> rfl
theorem saSpecV_eq_step (fc : Option FieldD) (v : Val α) :
    saSpecV g tb X ρ fc v = saSpecStep g tb X ρ (match fc with | some f => .field false f | none => .item .plain) v := by
  cases fc <;> cases v <;> rfl
theorem saKeysFields_cons (cont : Bool) (f : FieldD) (fds : List FieldD) (v : Val α) (vs : List (Val α)) :
    saKeysFields g tb X cont (f :: fds) (v :: vs) = saKeysStep g tb X (.field cont f) v ++ saKeysFields g tb X cont fds vs := by
  cases v <;> rfl
theorem saKeysItems_cons (mode : SMode) (v : Val α) (vs : List (Val α)) :
    saKeysItems g tb X mode (v :: vs) = saKeysStep g tb X (.item mode) v ++ saKeysItems g tb X mode vs := by
  cases mode <;> cases v <;> rfl
theorem saKeysV_eq_step (fc : Option FieldD) (v : Val α) :
    saKeysV g tb X fc v = saKeysStep g tb X (match fc with | some f => .field false f | none => .item .plain) v := by
  cases fc <;> cases v <;> rfl

theorem visitSaFields_nil (cont : Bool) (vs : List (Val α)) : visitSaFields g tb X mt cont [] vs = (vs, false) := by
  cases vs <;> rfl
theorem visitSaFields_nil' (cont : Bool) (fds : List FieldD) : visitSaFields g tb X mt cont fds [] = ([], false) := by
  cases fds <;> rfl
theorem visitSa_msg (fc : Option FieldD) (ty : Nat) (fs : List (Val α)) :
    visitSa g tb X mt fc (.msg ty fs) =
      (.msg ty (visitSaFields g tb X mt (saNamed tb fc && saTyped fc) (g.typeD ty).fields fs).1,
       (visitSaFields g tb X mt (saNamed tb fc && saTyped fc) (g.typeD ty).fields fs).2) := rfl
theorem visitSa_map (fc : Option FieldD) (l : List (Val α)) :
    visitSa g tb X mt fc (.map l) =
      (.map (visitSaItems g tb X mt (if saNamed tb fc && saTyped fc then .ren else .plain) l).1,
       (visitSaItems g tb X mt (if saNamed tb fc && saTyped fc then .ren else .plain) l).2) := rfl
theorem visitSa_list (fc : Option FieldD) (l : List (Val α)) :
    visitSa g tb X mt fc (.list l) =
      (.list (visitSaItems g tb X mt (if blobCtx tb fc then .blobs else .plain) l).1,
       (visitSaItems g tb X mt (if blobCtx tb fc then .blobs else .plain) l).2) := rfl
theorem visitSa_kv (fc : Option FieldD) (k : α) (v : Val α) :
    visitSa g tb X mt fc (.kv k v) = (.kv k (visitSa g tb X mt none v).1, (visitSa g tb X mt none v).2) := rfl
theorem saSpecV_blobEv (fc : Option FieldD) (re : Bool) (evs : List (Val α)) :
    saSpecV g tb X ρ fc (.blobEv re evs) = if blobCtx tb fc then .blobEv re (saSpecItems g tb X ρ .plain evs) else .blobEv re evs := rfl
theorem saKeysV_blobEv (fc : Option FieldD) (re : Bool) (evs : List (Val α)) :
    saKeysV g tb X fc (.blobEv re evs) = if blobCtx tb fc then saKeysItems g tb X .plain evs else [] := rfl

theorem saStep_kv (c : SaCtx) (k : α) (w : Val α) :
    saStep g tb X mt c (.kv k w) =
      (.kv (if c.key then (app mt k).1 else k) (saStep g tb X mt (.item .plain) w).1,
       (c.key && (app mt k).2) || (saStep g tb X mt (.item .plain) w).2) := by
  rw [← visitSa_eq_step none]; rfl
theorem saSpecStep_kv (c : SaCtx) (k : α) (w : Val α) :
    saSpecStep g tb X ρ c (.kv k w) = .kv (if c.key then ρ k else k) (saSpecStep g tb X ρ (.item .plain) w) := by
  rw [← saSpecV_eq_step none]; rfl
theorem saKeysStep_kv (c : SaCtx) (k : α) (w : Val α) :
    saKeysStep g tb X c (.kv k w) = (if c.key then [k] else []) ++ saKeysStep g tb X (.item .plain) w := by
  rw [← saKeysV_eq_step none]; rfl

variable (g tb X) in
/-- Induction along the search-attribute visitor's walk, like `nsStep_ind`.  A value without children, and a blob that
    is not decoded, comes back as it is and is its own renaming (`same`). -/
theorem saStep_ind {P : SaCtx → Val α → Prop} {QF : Bool → List FieldD → List (Val α) → Prop}
    {QI : SMode → List (Val α) → Prop}
    (same : ∀ c v, (∀ mt, saStep g tb X mt c v = (v, false)) → (∀ ρ, saSpecStep g tb X ρ c v = v) → P c v)
    (msg : ∀ c ty fs, QF (saNamed tb c.fc && saTyped c.fc) (g.typeD ty).fields fs → P c (.msg ty fs))
    (list : ∀ c l, QI (c.listMode tb) l → P c (.list l))
    (map : ∀ c l, QI (c.mapMode tb X) l → P c (.map l))
    (kv : ∀ c k w, P (.item .plain) w → P c (.kv k w))
    (blobEv : ∀ c re evs, c.opens tb = true → QI .plain evs → P c (.blobEv re evs))
    (fnil : ∀ cont vs, QF cont [] vs) (fnil' : ∀ cont fds, QF cont fds [])
    (fcons : ∀ cont f fds v vs, P (.field cont f) v → QF cont fds vs → QF cont (f :: fds) (v :: vs))
    (inil : ∀ mode, QI mode [])
    (icons : ∀ mode v vs, P (.item mode) v → QI mode vs → QI mode (v :: vs)) :
    (∀ c v, P c v) ∧ (∀ cont fds l, QF cont fds l) ∧ (∀ mode l, QI mode l) := by
  have H : (∀ v, ∀ c, P c v) ∧ (∀ l, (∀ cont fds, QF cont fds l) ∧ (∀ mode, QI mode l)) := by
    apply Val.ind2
    case str | tok | payload | nil => exact fun _ c => same c _ (fun _ => rfl) (fun _ => rfl)
    case blobRaw => exact fun _ _ c => same c _ (fun _ => rfl) (fun _ => rfl)
    · exact fun ty fs ih c => msg c ty fs (ih.1 _ _)
    · exact fun l ih c => list c l (ih.2 _)
    · exact fun l ih c => map c l (ih.2 _)
    · exact fun k w ih c => kv c k w (ih _)
    · refine fun re evs ih c => ?_
      cases ho : c.opens tb with
      | false => exact same c _ (fun _ => if_neg (ne_true_of_eq_false ho)) (fun _ => if_neg (ne_true_of_eq_false ho))
      | true => exact blobEv c re evs ho (ih.2 _)
    · exact ⟨fnil', inil⟩
    · intro v vs ihv _ ihvs
      refine ⟨fun cont fds => ?_, fun mode => icons mode v vs (ihv _) (ihvs.2 mode)⟩
      cases fds with
      | nil => exact fnil cont _
      | cons f fds => exact fcons cont f fds v vs (ihv _) (ihvs.1 cont fds)
  exact ⟨fun c v => H.1 v c, fun cont fds l => (H.2 l).1 cont fds, fun mode l => (H.2 l).2 mode⟩

theorem sa_unmatched_unchanged :
    (∀ c (v : Val α), (saStep g tb X mt c v).2 = false → (saStep g tb X mt c v).1 = v) ∧
    (∀ cont fds (l : List (Val α)),
      (visitSaFields g tb X mt cont fds l).2 = false → (visitSaFields g tb X mt cont fds l).1 = l) ∧
    (∀ mode (l : List (Val α)), (visitSaItems g tb X mt mode l).2 = false → (visitSaItems g tb X mt mode l).1 = l) := by
  apply saStep_ind g tb X
  · intro c v e _ _; rw [e]
  · intro c ty fs ih h; exact congrArg (Val.msg ty) (ih h)
  · intro c l ih h; exact congrArg Val.list (ih h)
  · intro c l ih h; exact congrArg Val.map (ih h)
  · intro c k v ih h
    rw [saStep_kv] at h ⊢
    simp only [Bool.or_eq_false_iff] at h ⊢
    rw [ih h.2]
    cases hk : c.key with
    | false => rfl
    | true => rw [hk] at h; rw [if_pos rfl, app_fst_of_unmatched k h.1]
  · intro c re evs ho _ h
    have e : saStep g tb X mt c (.blobEv re evs) = saBlobStep g tb X mt re evs := if_pos ho
    rw [e] at h ⊢
    exact blobResult_unmatched h
  · intro cont vs _; rw [visitSaFields_nil]
  · intro cont fds _; rw [visitSaFields_nil']
  · intro cont f fds v vs ihv ihvs h
    rw [visitSaFields_cons] at h ⊢
    simp only [Bool.or_eq_false_iff] at h ⊢
    rw [ihv h.1, ihvs h.2]
  · intro mode _; rfl
  · intro mode v vs ihv ihvs h
    rw [visitSaItems_cons] at h ⊢
    simp only [Bool.or_eq_false_iff] at h ⊢
    rw [ihv h.1, ihvs h.2]

theorem saStep_blobEv_fst (c : SaCtx) (re : Bool) (evs : List (Val α)) (ho : c.opens tb = true) :
    ∃ re', (saStep g tb X mt c (.blobEv re evs)).1 = .blobEv re' (visitSaItems g tb X mt .plain evs).1 := by
  show ∃ re', (if c.opens tb then _ else _ : Val α × Bool).1 = _
  rw [if_pos ho]
  exact blobResult_fst (sa_unmatched_unchanged.2.2 .plain evs)

theorem saSpecFields_nil (cont : Bool) (vs : List (Val α)) : saSpecFields g tb X ρ cont [] vs = vs := by cases vs <;> rfl

theorem sa_is_renaming (hρ : ∀ k, ρ k = (app mt k).1) :
    (∀ c (v : Val α), unflag (saStep g tb X mt c v).1 = unflag (saSpecStep g tb X ρ c v)) ∧
    (∀ cont fds (l : List (Val α)),
      unflagL (visitSaFields g tb X mt cont fds l).1 = unflagL (saSpecFields g tb X ρ cont fds l)) ∧
    (∀ mode (l : List (Val α)), unflagL (visitSaItems g tb X mt mode l).1 = unflagL (saSpecItems g tb X ρ mode l)) := by
  apply saStep_ind g tb X
  · intro c v e es; rw [e, es]
  · intro c ty fs ih; exact congrArg (Val.msg ty) ih
  · intro c l ih; exact congrArg Val.list ih
  · intro c l ih; exact congrArg Val.map ih
  · intro c k v ih
    rw [saStep_kv, saSpecStep_kv, unflag_kv, unflag_kv, ih, hρ]
  · intro c re evs ho ih
    obtain ⟨re', e⟩ := saStep_blobEv_fst (mt := mt) c re evs ho
    rw [e]
    show _ = unflag (if c.opens tb then _ else _)
    rw [if_pos ho, unflag_blobEv, unflag_blobEv, ih]
  · intro cont vs; rw [visitSaFields_nil, saSpecFields_nil]
  · intro cont fds
    rw [visitSaFields_nil']
    cases fds <;> rfl
  · intro cont f fds v vs ihv ihvs
    rw [visitSaFields_cons, saSpecFields_cons, unflagL_cons, unflagL_cons, ihv, ihvs]
  · intro mode; rfl
  · intro mode v vs ihv ihvs
    rw [visitSaItems_cons, saSpecItems_cons, unflagL_cons, unflagL_cons, ihv, ihvs]

theorem sa_roundtrip :
    (∀ c (v : Val α), (∀ k ∈ saKeysStep g tb X c v, (app mt' (app mt k).1).1 = k) →
        unflag (saStep g tb X mt' c (saStep g tb X mt c v).1).1 = unflag v) ∧
    (∀ cont fds (l : List (Val α)), (∀ k ∈ saKeysFields g tb X cont fds l, (app mt' (app mt k).1).1 = k) →
        unflagL (visitSaFields g tb X mt' cont fds (visitSaFields g tb X mt cont fds l).1).1 = unflagL l) ∧
    (∀ mode (l : List (Val α)), (∀ k ∈ saKeysItems g tb X mode l, (app mt' (app mt k).1).1 = k) →
        unflagL (visitSaItems g tb X mt' mode (visitSaItems g tb X mt mode l).1).1 = unflagL l) := by
  apply saStep_ind g tb X
  · intro c v e _ _; rw [e, e]
  · intro c ty fs ih h; exact congrArg (Val.msg ty) (ih h)
  · intro c l ih h; exact congrArg Val.list (ih h)
  · intro c l ih h; exact congrArg Val.map (ih h)
  · intro c k v ih h
    rw [saKeysStep_kv, List.forall_mem_append] at h
    rw [saStep_kv, saStep_kv, unflag_kv, unflag_kv, ih h.2]
    cases hk : c.key with
    | false => rfl
    | true => rw [if_pos rfl, if_pos rfl, h.1 k (by simp [hk])]
  · intro c re evs ho ih h
    have ek : saKeysStep g tb X c (.blobEv re evs) = saKeysItems g tb X .plain evs := if_pos ho
    obtain ⟨re1, e1⟩ := saStep_blobEv_fst (mt := mt) c re evs ho
    rw [e1]
    obtain ⟨re2, e2⟩ := saStep_blobEv_fst (mt := mt') c re1 (visitSaItems g tb X mt .plain evs).1 ho
    rw [e2, unflag_blobEv, unflag_blobEv, ih (ek ▸ h)]
  · intro cont vs _; rw [visitSaFields_nil, visitSaFields_nil]
  · intro cont fds _; rw [visitSaFields_nil', visitSaFields_nil']
  · intro cont f fds v vs ihv ihvs h
    rw [saKeysFields_cons, List.forall_mem_append] at h
    rw [visitSaFields_cons, visitSaFields_cons, unflagL_cons, unflagL_cons, ihv h.1, ihvs h.2]
  · intro mode _; rfl
  · intro mode v vs ihv ihvs h
    rw [saKeysItems_cons, List.forall_mem_append] at h
    rw [visitSaItems_cons, visitSaItems_cons, unflagL_cons, unflagL_cons, ihv h.1, ihvs h.2]

end

theorem collide_witness (mt : α → α × Bool) (es : List (Val α)) (h : renCollide mt es = true) :
    ∃ k1 k2, [k1, k2].Sublist (keysOf es) ∧ (app mt k1).1 = (app mt k2).1 := by
  unfold renCollide at h
  simp only [Bool.not_eq_eq_eq_not, Bool.not_true, decide_eq_false_iff_not] at h
  rw [List.Nodup, List.pairwise_iff_forall_sublist] at h
  simp only [Classical.not_forall, Classical.not_not, ne_eq] at h
  obtain ⟨a, b, hs, hab⟩ := h
  obtain ⟨l', hl', hm⟩ := List.sublist_map_iff.1 hs
  match l', hm with
  | [k1, k2], hm => cases hm; exact ⟨k1, k2, hl', hab⟩

end S2S.TranslateVal
