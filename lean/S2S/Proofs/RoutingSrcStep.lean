import S2S.Proofs.RoutingBasic
/-!
What ONE step of the routing machine (every `Cfg`, faults included) does to the acknowledgement-relevant fields of a
source, as a relation indexed by the action: `AF.SrcRel`, proved by `AF.step_src`.  No invariant is needed.

Read off it once for every fault-free chain: the acknowledgement history of a source stays in order (`Late.SrcHist`,
`Late.step_srcHist`).
-/
namespace S2S.Routing

/-- nothing acknowledgement-relevant changes -/
structure AF.Quiet (x x' : Source) : Prop where
  acks : x'.acksSent = x.acksSent
  high : x'.lastHigh = x.lastHigh
  lsm : x'.lastSentMin = x.lastSentMin
  lsa : x'.lastSentAck = x.lastSentAck
  active : x'.active = x.active
  inc : x'.inc = x.inc

theorem AF.Quiet.refl (x : Source) : AF.Quiet x x := ⟨rfl, rfl, rfl, rfl, rfl, rfl⟩

/-- the batch `tasks` with exclusive high watermark `high` is received -/
structure AF.RecvRel (tasks : List (Int × TId)) (high : Int) (x x' : Source) : Prop where
  act : x.active = true
  acks : x'.acksSent = x.acksSent
  recv : x'.received = x.received ++ tasks
  high : x'.lastHigh = high
  lsm : x'.lastSentMin = x.lastSentMin
  lsa : x'.lastSentAck = x.lastSentAck
  active : x'.active = x.active
  inc : x'.inc = x.inc

/-- the acknowledgement `m` is sent upstream -/
structure AF.SendRel (m : Int) (x x' : Source) : Prop where
  act : x.active = true
  acks : x'.acksSent = x.acksSent ++ [m]
  recv : x'.received = x.received
  high : x'.lastHigh = x.lastHigh
  active : x'.active = x.active
  inc : x'.inc = x.inc

/-- `sendAck` sends `m`: the minimum passed the guard `≥ lastSentMin`, then either went out as it is (which needs
    `m ≤ lastHigh` unless `lastHigh ≤ 0`) or was clamped to `lastHigh > 0` -/
structure AF.RackRel (m : Int) (x x' : Source) : Prop extends AF.SendRel m x x' where
  lsm : x'.lastSentMin = m
  lsa : x'.lastSentAck = some m
  val : (x.lastSentMin ≤ m ∧ (0 < x.lastHigh → m ≤ x.lastHigh)) ∨ (m = x.lastHigh ∧ 0 < x.lastHigh)

/-- the keep-alive re-sends `lastSentAck = some m` -/
structure AF.TickRel (m : Int) (x x' : Source) : Prop extends AF.SendRel m x x' where
  last : x.lastSentAck = some m
  lsm : x'.lastSentMin = x.lastSentMin
  lsa : x'.lastSentAck = x.lastSentAck

structure AF.OpenRel (x x' : Source) : Prop where
  idle : x.active = false
  acks : x'.acksSent = x.acksSent
  recv : x'.received = x.received
  high : x'.lastHigh = 0
  lsm : x'.lastSentMin = 0
  lsa : x'.lastSentAck = none
  active : x'.active = true
  inc : x'.inc = x.inc + 1

structure AF.BreakRel (x x' : Source) : Prop where
  act : x.active = true
  acks : x'.acksSent = x.acksSent
  recv : x'.received = x.received
  high : x'.lastHigh = 0
  lsm : x'.lastSentMin = 0
  lsa : x'.lastSentAck = none
  active : x'.active = false
  inc : x'.inc = x.inc

/-- the source stream whose ghosts the action moves: `recv s` moves `Ghost.maxHighOf s`, `openSrc s` moves `Ghost.baseOf s`
    and `AckGhost.baseOf s` -/
def Act.ghostSrc : Act → Option SId
  | .recv s _ _ | .openSrc s => some s
  | _ => none

/-- what action `a` can do to source `s` (`x` before, `x'` after).  `quiet`: nothing moves, no ghost of `s` either -/
inductive AF.SrcRel : Act → SId → Source → Source → Prop
  | quiet {a s x x'} (q : AF.Quiet x x') (recv : x'.received = x.received) (hg : a.ghostSrc ≠ some s) :
      AF.SrcRel a s x x'
  | recv {s x x'} (tasks high) (r : AF.RecvRel tasks high x x') : AF.SrcRel (.recv s tasks high) s x x'
  | rack {s x x'} (m) (r : AF.RackRel m x x') : AF.SrcRel (.rack s) s x x'
  | tick {s x x'} (m) (r : AF.TickRel m x x') : AF.SrcRel .tick s x x'
  | openSrc {s x x'} (r : AF.OpenRel x x') : AF.SrcRel (.openSrc s) s x x'
  | breakSrc {s x x'} (r : AF.BreakRel x x') : AF.SrcRel (.breakSrc s) s x x'

theorem AF.srcRel_setSrc {a : Act} (σ : State) {s0 : SId} {x' : Source} (hlt : s0 < σ.sources.length)
    (h : AF.SrcRel a s0 (σ.src s0) x')
    (hne : ∀ s, a.ghostSrc = some s → s = s0) (s : SId) :
    AF.SrcRel a s (σ.src s) ((σ.setSrc s0 x').src s) := by
  by_cases e : s = s0
  · subst e; rw [src_setSrc_self _ hlt]; exact h
  · rw [src_setSrc_ne _ e]; exact .quiet (.refl _) rfl fun h => e (hne s h)

theorem AF.step_src {c : Cfg} {σ σ' : State} {a : Act} (h : step c σ a = some σ') (s : SId) :
    AF.SrcRel a s (σ.src s) (σ'.src s) := by
  cases Step.of_step h with
  | tick =>
    rw [tick_src, tickSrc_eq]
    rcases tickSrc_acksSent (σ.src s) with e | ⟨m, hact, hm, e⟩
    · exact .quiet ⟨e, rfl, rfl, rfl, rfl, rfl⟩ rfl nofun
    · exact .tick m ⟨⟨hact, e, rfl, rfl, rfl, rfl⟩, hm, rfl, rfl⟩
  | recvWm _ _ hact | recvTasks _ _ _ hact =>
    refine AF.srcRel_setSrc (a := .recv _ _ _) σ (src_lt_of_active σ hact) ?_ (fun _ e => (Option.some.inj e).symm) s
    exact .recv _ _ ⟨hact, rfl, by simp, rfl, rfl, rfl, rfl, rfl⟩
  | @rackSend s0 _ _ _ m hact _ _ hge =>
    refine AF.srcRel_setSrc (a := .rack _) σ (src_lt_of_active σ hact) ?_ nofun s
    refine .rack _ ⟨⟨hact, rfl, rfl, rfl, rfl, rfl⟩, rfl, rfl, ?_⟩
    exact (clampAck_cases _ m).imp (fun e => by rw [e.1]; exact ⟨hge, e.2⟩) (fun e => ⟨e.1, e.2.1⟩)
  | openSrc _ hact hlt =>
    refine AF.srcRel_setSrc (a := .openSrc _) σ hlt ?_ (fun _ e => (Option.some.inj e).symm) s
    exact .openSrc ⟨hact, rfl, rfl, rfl, rfl, rfl, rfl, rfl⟩
  | breakSrc _ hact =>
    refine AF.srcRel_setSrc (a := .breakSrc _) σ (src_lt_of_active σ hact) ?_ nofun s
    exact .breakSrc ⟨hact, rfl, rfl, rfl, rfl, rfl, rfl, rfl⟩
  | rackQuiet | bcastSend | bcastDrop | deliver | ackFwd =>
    refine rel_setSrc (R := AF.SrcRel _) ?_ σ ?_ s
    · exact fun _ x => .quiet (.refl x) rfl nofun
    · exact .quiet ⟨rfl, rfl, rfl, rfl, rfl, rfl⟩ rfl nofun
  -- the other actions write to a target only
  | _ => exact .quiet (.refl _) rfl nofun

theorem AF.SrcRel.acks_append {a : Act} {s : SId} {x x' : Source} (h : AF.SrcRel a s x x') :
    ∃ n, x'.acksSent = x.acksSent ++ n ∧ ∀ v ∈ n, x'.lastSentAck = some v := by
  cases h with
  | quiet r | recv _ _ r | openSrc r | breakSrc r =>
    exact ⟨[], r.acks.trans (List.append_nil _).symm, fun _ h => absurd h List.not_mem_nil⟩
  | rack m r => exact ⟨[m], r.acks, List.forall_mem_singleton.2 r.lsa⟩
  | tick m r => exact ⟨[m], r.acks, List.forall_mem_singleton.2 (r.lsa.trans r.last)⟩

theorem AF.SrcRel.mem_acks {a : Act} {s : SId} {x x' : Source} (h : AF.SrcRel a s x x') {v : Int}
    (hv : v ∈ x'.acksSent) : v ∈ x.acksSent ∨ x'.lastSentAck = some v :=
  let ⟨_, e, hn⟩ := h.acks_append
  (List.mem_append.1 (e ▸ hv)).imp_right (hn v)

theorem AF.SrcRel.received_append {a : Act} {s : SId} {x x' : Source} (h : AF.SrcRel a s x x') :
    ∃ r, x'.received = x.received ++ r ∧ ∀ p ∈ r, ∃ high, a = .recv s r high := by
  cases h with
  | quiet _ hr => exact ⟨[], hr.trans (List.append_nil _).symm, fun _ h => absurd h List.not_mem_nil⟩
  | recv tasks high r => exact ⟨tasks, r.recv, fun _ _ => ⟨high, rfl⟩⟩
  | rack _ r | tick _ r | openSrc r | breakSrc r =>
    exact ⟨[], r.recv.trans (List.append_nil _).symm, fun _ h => absurd h List.not_mem_nil⟩

/-- history of one source stream: non-decreasing, bounded by `lastSentMin`, which is bounded by `lastHigh` -/
structure Late.SrcHist (x : Source) : Prop where
  sorted : x.acksSent.Pairwise (· ≤ ·)
  acks : ∀ u ∈ x.acksSent, u ≤ x.lastSentMin
  lsa : ∀ a, x.lastSentAck = some a → a = x.lastSentMin
  lsm : x.lastSentMin ≤ x.lastHigh

theorem Late.SrcHist.le_lastHigh {x : Source} (h : Late.SrcHist x) : ∀ v ∈ x.acksSent, v ≤ x.lastHigh :=
  fun v hv => Int.le_trans (h.acks v hv) h.lsm

theorem Late.SrcHist.frame {x x' : Source} (H : Late.SrcHist x) (ha : x'.acksSent = x.acksSent)
    (hm : x'.lastSentMin = x.lastSentMin) (hl : x'.lastSentAck = x.lastSentAck) (hh : x.lastHigh ≤ x'.lastHigh) :
    Late.SrcHist x' :=
  ⟨ha ▸ H.sorted, by rw [ha, hm]; exact H.acks, by rw [hl, hm]; exact H.lsa, hm ▸ Int.le_trans H.lsm hh⟩

theorem Late.SrcHist.send {x x' : Source} {m : Int} (H : Late.SrcHist x) (r : AF.SendRel m x x')
    (hlsm : x'.lastSentMin = m) (hlsa : x'.lastSentAck = some m) (hge : x.lastSentMin ≤ m) (hhi : m ≤ x'.lastHigh) :
    Late.SrcHist x' := by
  have hle : ∀ u ∈ x.acksSent, u ≤ m := fun u hu => Int.le_trans (H.acks u hu) hge
  refine ⟨?_, ?_, ?_, hlsm ▸ hhi⟩
  · rw [r.acks]; exact pairwise_le_snoc H.sorted hle
  · rw [r.acks, hlsm]; exact forall_mem_snoc hle (Int.le_refl _)
  · rw [hlsa, hlsm]; intro a ha; cases ha; rfl

/-- two facts come from the invariant of the chain at hand: what a `rack` sends is at most `lastHigh` (`hrack`), and a
    stream that is not active has never run (`hidle`) -/
theorem Late.SrcHist.step {a : Act} {s : SId} {x x' : Source} (H : Late.SrcHist x) (r : AF.SrcRel a s x x')
    (hnf : a.isFault = false) (hrecv : ∀ tasks high, a = .recv s tasks high → x.lastHigh ≤ high)
    (hrack : ∀ m, a = .rack s → x'.lastSentAck = some m → m ≤ x'.lastHigh)
    (hidle : x.active = false → x = {}) : Late.SrcHist x' := by
  cases r with
  | quiet q => exact H.frame q.acks q.lsm q.lsa (Int.le_of_eq q.high.symm)
  | recv tasks high r => exact H.frame r.acks r.lsm r.lsa (r.high ▸ hrecv tasks high rfl)
  | rack m r => exact H.send r.toSendRel r.lsm r.lsa (r.val.elim (·.1) fun v => by rw [v.1]; exact H.lsm) (hrack m rfl r.lsa)
  | tick m r =>
    -- the keep-alive re-sends `lastSentAck = lastSentMin`
    have e : m = x.lastSentMin := H.lsa m r.last
    exact H.send r.toSendRel (r.lsm.trans e.symm) (r.lsa.trans r.last) (Int.le_of_eq e.symm) (by rw [r.high, e]; exact H.lsm)
  | openSrc r =>
    have ha : x'.acksSent = [] := by rw [r.acks, hidle r.idle]
    exact ⟨ha ▸ .nil, by rw [ha]; nofun, by rw [r.lsa]; nofun, by rw [r.lsm, r.high]; exact Int.le_refl _⟩
  | breakSrc => cases hnf

theorem Late.step_srcHist {c : Cfg} {σ σ' : State} {a : Act} (h : step c σ a = some σ') (henv : StepEnv σ a)
    (hnf : a.isFault = false) {s : SId} (H : Late.SrcHist (σ.src s))
    (hrack : ∀ m, a = .rack s → (σ'.src s).lastSentAck = some m → m ≤ (σ'.src s).lastHigh)
    (hidle : (σ.src s).active = false → σ.src s = {}) : Late.SrcHist (σ'.src s) :=
  H.step (AF.step_src h s) hnf (fun _ _ e => by subst e; exact henv.2.2.2) hrack hidle

end S2S.Routing
