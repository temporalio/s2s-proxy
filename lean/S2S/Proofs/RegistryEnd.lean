import S2S.Proofs.RegistryOwn
/-!
C08: "once all streams have ended nothing remains registered": the invariants behind it for `localReceiverCancelFuncs` and
`activeReceivers`, both over `InvPast`, one clause of which (a cancelled receiver has left its start-up) rests on the serial
receiver sections (`RecvOK`); `activeReceivers` also needs `OpenOK` (window (v): a successor that terminated the old receiver
must manage to open its own stream, otherwise the old receiver's entry stays).  The statement, `empty_of_invEnd` along
`invEnd_run`, is made for runs under both.
-/
namespace S2S.Registry

/-- whoever is named by a cancel-function entry, by a pending termination or by a cancellation has registered its
    cancel function, and belongs to the shard in question; a cancelled one has also left its start-up (start-ups are serial) -/
structure InvPast (σ : State) : Prop where
  entry : ∀ c t, aget σ.cancels c = some t → (σ.inc t).shard = c ∧ (σ.inc t).rpc.past = true
  term : ∀ k g, (σ.inc k).rpc = .term g → (σ.inc g).shard = (σ.inc k).shard ∧ (σ.inc g).rpc.past = true
  cancelled : ∀ t, (σ.inc t).cancelled = true → (σ.inc t).rpc.past = true ∧ (σ.inc t).rpc.starting = false

/-- the one to be terminated has registered its cancel function, the terminator has not -/
theorem InvPast.term_ne {σ : State} {k g : Tok} (P : InvPast σ) (hg : (σ.inc k).rpc = .term g) : g ≠ k := by
  intro e; subst e
  have := (P.term g g hg).2
  rw [hg] at this; simp at this

theorem invPast_step {c σ a σ'} (h : Step c σ a σ') (B : InvBound σ) (S : InvSerial σ) (I : InvPast σ) : InvPast σ' := by
  -- one record: a cancellation is old or justified on the spot; shard, `past` and "past and outside the start-up" are kept
  have hi : ∀ j, ((σ'.inc j).cancelled = true →
        (σ.inc j).cancelled = true ∨ ((σ'.inc j).rpc.past = true ∧ (σ'.inc j).rpc.starting = false)) ∧
      (j < σ.next → (σ'.inc j).shard = (σ.inc j).shard ∧ ((σ.inc j).rpc.past = true → (σ'.inc j).rpc.past = true ∧
        ((σ.inc j).rpc.starting = false → (σ'.inc j).rpc.starting = false))) := by
    intro j
    cases ha : a.movesRecv
    · simp +contextual [h.recvSame ha]
    cases h with
    | rCancelSelf k g hg hgk => exact absurd hgk (I.term_ne hg)
    | rCancel k g hg hgk =>
      -- the cancelled `g` is past, and not inside its start-up while `k` is inside its own
      have hP2 := I.term k g hg
      have hgs : (σ.inc g).rpc.starting = false := Bool.eq_false_iff.2 fun hst =>
        S k g (fun e => hgk e.symm) hP2.1.symm (by simp [hg, RPc.sec]) (by simp [hst, RPc.sec])
      simp <;> crush
    | _ =>
      first
        | exact Bool.noConfusion ha
        | (simp <;> crush)
  obtain ⟨P1, P2, P3⟩ := I
  have keep : ∀ {t c}, t < σ.next → (σ.inc t).shard = c ∧ (σ.inc t).rpc.past = true →
      (σ'.inc t).shard = c ∧ (σ'.inc t).rpc.past = true :=
    fun ht h => ⟨((hi _).2 ht).1 ▸ h.1, (((hi _).2 ht).2 h.2).1⟩
  refine ⟨fun c t ht => ?_, fun k g hk => ?_, fun t ht => ?_⟩
  · -- a new entry is `rSetCancel`'s own
    exact (h.cancels_from ht).elim (fun h => keep (B.cancels c t h) (P1 c t h)) fun e => ⟨e.2.1, by simp [e.2.2]⟩
  · -- a new pending termination names the entry that `rGetSome` found
    obtain ⟨hgn, hkn, hg⟩ : g < σ.next ∧ k < σ.next ∧ (σ.inc g).shard = (σ.inc k).shard ∧ (σ.inc g).rpc.past = true :=
      (h.term_from hk).elim (fun h => ⟨B.term k g h, lt_next_of_rpc B (by simp [h]), P2 k g h⟩)
        fun h => ⟨B.cancels _ g h.2, lt_next_of_rpc B (by simp [h.1]), P1 _ g h.2⟩
    exact ((hi k).2 hkn).1 ▸ keep hgn hg
  · rcases (hi t).1 ht with h | h
    · exact (((hi t).2 (lt_next_of_cancelled B h)).2 (P3 t h).1).imp_right (· (P3 t h).2)
    · exact h

/-! `cancels` and `actives` are guarded by the same invariant, `InvE`, over the registry `reg` and what counts as still holding
the entry (`hold`) and as evicting (`ev`) there. -/

/-- an entry of `reg` belongs to an un-cancelled receiver of that shard that will remove it, or an evictor of the shard is about to -/
def InvE (reg : State → List (Shard × Tok)) (hold ev : RPc → Prop) (σ : State) : Prop :=
  ∀ c t, aget (reg σ) c = some t → t < σ.next ∧ (σ.inc t).shard = c ∧
    ((hold (σ.inc t).rpc ∧ (σ.inc t).cancelled = false) ∨ ∃ j, j < σ.next ∧ (σ.inc j).shard = c ∧ ev (σ.inc j).rpc)

section
variable {reg : State → List (Shard × Tok)} {hold ev : RPc → Prop} {σ σ' : State} {k : Tok}

theorem InvE.frame (I : InvE reg hold ev σ) (hn : σ.next ≤ σ'.next) (hr : reg σ' = reg σ)
    (hi : ∀ j, j < σ.next → (σ'.inc j).shard = (σ.inc j).shard ∧ (ev (σ.inc j).rpc → ev (σ'.inc j).rpc) ∧
      (hold (σ.inc j).rpc → (σ.inc j).cancelled = false → hold (σ'.inc j).rpc ∧ (σ'.inc j).cancelled = false)) :
    InvE reg hold ev σ' := by
  intro c t ht
  rw [hr] at ht
  obtain ⟨hb, hs, h⟩ := I c t ht
  refine ⟨Nat.lt_of_lt_of_le hb hn, (hi t hb).1 ▸ hs, h.imp (fun h => (hi t hb).2.2 h.1 h.2) fun ⟨j, h1, h2, h3⟩ => ?_⟩
  exact ⟨j, Nat.lt_of_lt_of_le h1 hn, (hi j h1).1 ▸ h2, (hi j h1).2.1 h3⟩

theorem InvE.write (I : InvE reg hold ev σ) (w : Writes reg k σ σ')
    (hk : ∀ t, aget (reg σ') (σ.inc k).shard = some t →
      t = k ∧ k < σ.next ∧ hold (σ'.inc k).rpc ∧ (σ'.inc k).cancelled = false) : InvE reg hold ev σ' := by
  intro c t ht
  by_cases e : (σ.inc k).shard = c
  · subst e
    obtain ⟨rfl, hb, hh⟩ := hk t ht
    exact ⟨w.next ▸ hb, w.shard, .inl hh⟩
  · rw [w.reg c e] at ht
    obtain ⟨hb, hst, h⟩ := I c t ht
    have ne : ∀ j, (σ.inc j).shard = c → k ≠ j := fun j hj e' => e (by rw [e', hj])
    rw [w.inc t (ne t hst)]
    exact ⟨w.next ▸ hb, hst, h.imp_right fun ⟨j, h1, h2, h3⟩ => ⟨j, w.next ▸ h1, by rw [w.inc j (ne j h2)]; exact ⟨h2, h3⟩⟩⟩

/-- `rCancel`: `k` cancels `g` and is the evictor of their shard from then on -/
theorem InvE.cancel {g : Tok} (I : InvE reg hold ev σ) (hreg : ∀ σ i x, reg (State.setInc σ i x) = reg σ) (hev : ev .termRm)
    (B : InvBound σ) (P : InvPast σ) (hg : (σ.inc k).rpc = .term g) (hgk : ¬ g = k) {x y : Inc}
    (hxs : x.shard = (σ.inc k).shard := by rfl) (hxr : x.rpc = .termRm := by rfl)
    (hys : y.shard = (σ.inc g).shard := by rfl) (hyr : y.rpc = (σ.inc g).rpc := by rfl) :
    InvE reg hold ev ((σ.setInc k x).setInc g y) := by
  have hP2 := P.term k g hg
  -- the records after the step: shards stay, an evictor stays one, and `k` has become one
  have fs : ∀ j, (if g = j then y else if k = j then x else σ.inc j).shard = (σ.inc j).shard := fun j => by crush
  have fe : ∀ j, ev (σ.inc j).rpc → ev (if g = j then y else if k = j then x else σ.inc j).rpc := fun j hj => by crush
  intro c t ht
  simp only [hreg, setInc_next, inc_setInc] at ht ⊢
  obtain ⟨hb, hs, h⟩ := I c t ht
  refine ⟨hb, (fs t).trans hs, ?_⟩
  by_cases e : g = t ∨ k = t
  · refine .inr ⟨k, lt_next_of_rpc B (by simp [hg]), (fs k).trans ?_, by simp [hgk, hxr, hev]⟩
    rcases e with rfl | rfl
    · exact hP2.1.symm.trans hs
    · exact hs
  · simp only [not_or] at e
    simp only [e.1, e.2, if_false]
    exact h.imp_right fun ⟨j, h1, h2, h3⟩ => ⟨j, h1, (fs j).trans h2, fe j h3⟩

theorem InvE.none {sh : Shard} (I : InvE reg hold ev σ)
    (hh : ∀ t, t < σ.next → (σ.inc t).shard = sh → ¬ hold (σ.inc t).rpc) (he : ∀ j, j < σ.next → ¬ ev (σ.inc j).rpc) :
    aget (reg σ) sh = none :=
  Option.eq_none_iff_forall_ne_some.2 fun t hs => by
    obtain ⟨h1, h2, h | ⟨j, hj, _, h3⟩⟩ := I sh t hs
    · exact hh t h1 h2 h.1
    · exact he j hj h3

end

def InvCE (σ : State) : Prop := InvE State.cancels (·.holdsCancel = true) (· = .termRm) σ

theorem invCE_step {c σ a σ'} (h : Step c σ a σ') (B : InvBound σ) (P : InvPast σ) (I : InvCE σ) : InvCE σ' := by
  cases ha : a.movesRecv
  · intro c t; simp only [h.recvSame ha]; exact I c t
  have w := @h.writes
  cases h with
  | rCancelSelf k g hg hgk => exact absurd hgk (P.term_ne hg)
  | rCancel k g hg hgk => exact I.cancel (fun _ _ _ => rfl) rfl B P hg hgk
  | rRmCancel k hk | rRmOwnCancel k hk =>
    exact I.write (w _ _ _ rfl) fun t ht => by simp [aget_adel] at ht
  | rSetCancel k hk =>
    refine I.write (w _ _ _ rfl) fun t ht => ?_
    -- `k` is not past its registration, so it has not been cancelled
    have hP := P.cancelled k
    simp [aget_aset] at ht
    exact ⟨ht.symm, lt_next_of_rpc B (by simp [hk]), by simp, by simp_all⟩
  | _ =>
    first
      | exact Bool.noConfusion ha
      | (clear w; refine I.frame (by simp) (by simp) fun j hj => ?_; simp <;> crush)

def InvAE (σ : State) : Prop := InvE State.actives (·.holdsActive = true) (·.evicting = true) σ

theorem invAE_step {c σ a σ'} (h : Step c σ a σ') (hy : OpenOK σ a) (B : InvBound σ) (P : InvPast σ) (I : InvAE σ) :
    InvAE σ' := by
  cases ha : a.movesRecv
  · intro c t; simp only [h.recvSame ha]; exact I c t
  have w := @h.writes
  cases h with
  | rCancelSelf k g hg hgk => exact absurd hgk (P.term_ne hg)
  | rCancel k g hg hgk => exact I.cancel (fun _ _ _ => rfl) rfl B P hg hgk
  | rOpenFail k ok hk hok => exact absurd hy hok
  | rRegActive k hk =>
    refine I.write (w _ _ _ rfl) fun t ht => ?_
    -- `k` is inside its start-up, so it has not been cancelled
    have hN : (σ.inc k).cancelled = false := Bool.eq_false_iff.2 fun hc => by simpa [hk] using (P.cancelled k hc).2
    simp [aget_aset] at ht
    exact ⟨ht.symm, lt_next_of_rpc B (by simp [hk]), by simp, by simpa using hN⟩
  | rUnregActive k hk =>
    exact I.write (w _ _ _ rfl) fun t ht => by simp [aget_adel] at ht
  | _ =>
    first
      | exact Bool.noConfusion ha
      | (clear w; refine I.frame (by simp) (by simp) fun j hj => ?_; simp <;> crush)

def EndHyp (σ : State) (a : Act) : Prop := RecvOK σ a ∧ OpenOK σ a

structure InvEnd (σ : State) : Prop extends InvBase σ where
  past : InvPast σ
  ce : InvCE σ
  ae : InvAE σ

theorem invEnd_init : InvEnd State.init :=
  { invBase_init with
    past := ⟨fun _ _ h => by simp [State.init, aget] at h, fun _ _ h => by simp [inc_init] at h,
      fun _ h => by simp [inc_init] at h⟩
    ce := fun _ _ h => by simp [State.init, aget] at h
    ae := fun _ _ h => by simp [State.init, aget] at h }

theorem invEnd_step {c σ a σ'} (h : Step c σ a σ') (hy : OpenOK σ a) (I : InvEnd σ) (R' : InvBase σ') : InvEnd σ' :=
  have B := I.u.bound
  { R' with
    past := invPast_step h B I.serial I.past
    ce := invCE_step h B I.past I.ce
    ae := invAE_step h hy B I.past I.ae }

theorem invEnd_run {c : Cfg} (hc : c.cleanupUnconditional = false) (acts : List Act)
    (H : Along c EndHyp State.init acts) : InvEnd (run c State.init acts) :=
  run_induct (H := EndHyp) (fun _ _ _ h hy I => invEnd_step h hy.2 I (invBase_step h hc hy.1 I.toInvBase))
    acts State.init invEnd_init H

end S2S.Registry
