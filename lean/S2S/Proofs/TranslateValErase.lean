import S2S.Proofs.TranslateValCtx
/-! C13 (value level): the namespace visitor changes nothing but namespace-name leaves (and re-encoded marks). -/
set_option linter.unusedSectionVars false
namespace S2S.TranslateVal
open S2S.Translate S2S.NameMap
variable {α : Type} [DecidableEq α] {g : Graph} {tb : Tables} {X : Ext α} {mt : α → α × Bool} {bl : α → α}

variable (g tb bl) in
/-- `eraseFields` on the value in field `f` of a struct (`ni`: a NamespaceInfo) -/
def eraseFieldStep (ni : Bool) (f : FieldD) (v : Val α) : Val α :=
  match v with
  | .str s => if nsLeafOf g tb ni f then Val.str (bl s) else .str s
  | w => eraseV g tb bl (some f) w

omit [DecidableEq α] in
theorem eraseFields_cons (ni : Bool) (f : FieldD) (fds : List FieldD) (v : Val α) (vs : List (Val α)) :
    eraseFields g tb bl ni (f :: fds) (v :: vs) = eraseFieldStep g tb bl ni f v :: eraseFields g tb bl ni fds vs := by
  cases v <;> rfl
variable (g tb) (c : α → α) in
theorem eraseFields_nil (ni : Bool) (vs : List (Val α)) : eraseFields g tb c ni [] vs = vs := by cases vs <;> rfl
omit [DecidableEq α] in
theorem eraseItems_cons (v : Val α) (vs : List (Val α)) :
    eraseItems g tb bl (v :: vs) = eraseV g tb bl none v :: eraseItems g tb bl vs := rfl
variable (g tb) (c : α → α) in
theorem eraseV_str_some (f : FieldD) (s : α) :
    eraseV g tb c (some f) (.str s) = if isNsLeafField tb f then .str (c s) else .str s := rfl
section
omit [DecidableEq α]

theorem eraseV_msg (fc : Option FieldD) (ty : Nat) (fs : List (Val α)) :
    eraseV g tb bl fc (.msg ty fs) = .msg ty (eraseFields g tb bl (ty == g.namespaceInfo) (g.typeD ty).fields fs) := rfl
theorem eraseV_list (fc : Option FieldD) (l : List (Val α)) : eraseV g tb bl fc (.list l) = .list (eraseItems g tb bl l) := rfl
theorem eraseV_map (fc : Option FieldD) (l : List (Val α)) : eraseV g tb bl fc (.map l) = .map (eraseItems g tb bl l) := rfl
theorem eraseV_kv (fc : Option FieldD) (k : α) (v : Val α) : eraseV g tb bl fc (.kv k v) = .kv k (eraseV g tb bl none v) := rfl
theorem eraseV_blobEv (fc : Option FieldD) (re : Bool) (l : List (Val α)) :
    eraseV g tb bl fc (.blobEv re l) = .blobEv false (eraseItems g tb bl l) := rfl

end

omit [DecidableEq α] in
theorem nsStrStep_erase (hbl : ∀ s, bl (app mt s).1 = bl s) (ni ni' : Bool) (hn : ni = true → ni' = true) (f : FieldD) (s : α) :
    eraseFieldStep g tb bl ni' f (.str (nsStrStep g tb mt ni f s).1) = eraseFieldStep g tb bl ni' f (.str s) := by
  -- a leaf of a plain struct is a leaf of a NamespaceInfo as well
  have hm : nsLeafOf g tb ni f = true → nsLeafOf g tb ni' f = true := fun hl => by
    cases ni with
    | false => exact Bool.or_eq_true_iff.2 (.inr hl)
    | true => exact hn rfl ▸ hl
  rcases nsStrStep_cases g tb mt ni f s with ⟨_, e⟩ | ⟨hl, e⟩ | ⟨hl, _, _, e⟩ <;> rw [e]
  all_goals
    show (if nsLeafOf g tb ni' f then Val.str (bl _) else _) = if nsLeafOf g tb ni' f then Val.str (bl s) else _
    rw [if_pos (hm hl), if_pos (hm hl)]; simp only [hbl]

def Val.isStr : Val α → Bool
  | .str _ => true
  | _ => false

variable (g tb bl) in
/-- erasure of a value found in context `c`: as the field of a struct (`ni`: a NamespaceInfo), or as an element -/
def eraseAt (c : Ctx) (ni : Bool) (v : Val α) : Val α :=
  match c with
  | .field _ f => eraseFieldStep g tb bl ni f v
  | _ => eraseV g tb bl none v

omit [DecidableEq α] in
theorem eraseAt_nonstr (c : Ctx) (ni : Bool) (v : Val α) (h : v.isStr = false) :
    eraseAt g tb bl c ni v = eraseV g tb bl none v := by
  cases c with
  | field mode f => cases v <;> first | rfl | cases h
  | _ => rfl

/-- erasure knows at least as well as the callback that a struct is a NamespaceInfo (`eraseFields` goes by the type id,
    the callback by the mode, and `History` takes precedence there) -/
theorem erase_visit (hbl : ∀ s, bl (app mt s).1 = bl s) :
    (∀ c (v : Val α), ∀ ni, (∀ f, c = .field .nsInfo f → ni = true) →
        eraseAt g tb bl c ni (nsStep g tb X mt c v).1 = eraseAt g tb bl c ni v) ∧
    (∀ mode fds (l : List (Val α)), ∀ ni, (mode = FMode.nsInfo → ni = true) →
        eraseFields g tb bl ni fds (visitNsFields g tb X mt mode fds l).1 = eraseFields g tb bl ni fds l) ∧
    (∀ mode (l : List (Val α)), eraseItems g tb bl (visitNsItems g tb X mt mode l).1 = eraseItems g tb bl l) := by
  apply nsStep_ind g tb X
  · intro c v e _ _ _; rw [e]
  · intro c s ni0 f hl ni hni
    rw [nsStep_str, hl]
    rcases c with _ | ⟨_ | _ | _, _⟩ | _ <;> cases hl
    · exact nsStrStep_erase hbl false ni nofun f s
    · exact nsStrStep_erase hbl true ni (fun _ => hni f rfl) f s
  · intro c ty fs hs ih ni _
    rw [nsStep_msg hs, eraseAt_nonstr c ni _ rfl, eraseAt_nonstr c ni _ rfl, eraseV_msg, eraseV_msg, ih _ nsMode_nsInfo]
  · intro c l hs ih ni _
    rw [nsStep_list hs, eraseAt_nonstr c ni _ rfl, eraseAt_nonstr c ni _ rfl, eraseV_list, eraseV_list, ih]
  · intro c l hs ih ni _
    rw [nsStep_map hs, eraseAt_nonstr c ni _ rfl, eraseAt_nonstr c ni _ rfl, eraseV_map, eraseV_map, ih]
  · intro c k v hs ih ni _
    rw [nsStep_kv hs, eraseAt_nonstr c ni _ rfl, eraseAt_nonstr c ni _ rfl, eraseV_kv, eraseV_kv]
    exact congrArg (Val.kv k) (ih false nofun)
  · intro c re evs ho _ ih ni _
    rw [nsStep_blobEv, if_pos ho, nsBlobStep]
    rcases blobResult_cases re evs (listSkippable g tb X evs) (visitNsItems g tb X mt .plain evs) with ⟨h, _⟩ | ⟨h, _⟩
    · rw [h]
    · rw [h, eraseAt_nonstr c ni _ rfl, eraseAt_nonstr c ni _ rfl, eraseV_blobEv, eraseV_blobEv, ih]
  · intro mode vs ni _; rw [visitNsFields_nil]
  · intro mode fds ni _; rw [visitNsFields_nil']
  · intro mode f fds v vs ihv ihvs ni hni
    rw [visitNsFields_cons, eraseFields_cons, eraseFields_cons, ihvs ni hni]
    exact congrArg (· :: _) (ihv ni fun _ h => by cases h; exact hni rfl)
  · intro mode; rfl
  · intro mode v vs ihv ihvs
    rw [visitNsItems_cons, eraseItems_cons, eraseItems_cons, ihvs]
    exact congrArg (· :: _) (ihv false nofun)

end S2S.TranslateVal
