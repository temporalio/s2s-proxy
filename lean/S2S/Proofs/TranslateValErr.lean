import S2S.Proofs.TranslateValId
import S2S.Proofs.TranslateValSkip
/-! C16 (value level): what the access check finds in a translated tree, provided translation does not make the skip shortcut
    skip what it walked (`SkipStable`).  Translation neither creates nor hides a visitor failure (an undecodable blob in a
    recognised blob field).  The names the visitor finds are the translations of the names it finds in the original tree, in
    the same order, if also `NamespaceInfo.Name` goes through the matcher once (`NameOnce`). -/
namespace S2S.TranslateVal
open S2S.Translate S2S.NameMap
variable {α : Type} [DecidableEq α] {g : Graph} {tb : Tables} {X : Ext α} {mt : α → α × Bool}

variable (g tb X) in
/-- the callback looking for an undecodable blob -/
def errStep (c : Ctx) (v : Val α) : Bool :=
  !c.skips g tb X v &&
  match v with
  | .msg ty fs => nsErrFields g tb X (nsMode g ty) (g.typeD ty).fields fs
  | .list l => nsErrItems g tb X (c.listMode tb) l
  | .map l => nsErrItems g tb X .plain l
  | .kv _ w => nsErrV g tb X none w
  | .blobEv _ evs => c.opens tb && !listSkippable g tb X evs && nsErrItems g tb X .plain evs
  | .blobRaw e _ => c.opens tb && !e
  | _ => false

theorem nsErrFields_cons (mode : FMode) (f : FieldD) (fds : List FieldD) (v : Val α) (vs : List (Val α)) :
    nsErrFields g tb X mode (f :: fds) (v :: vs) = (errStep g tb X (.field mode f) v || nsErrFields g tb X mode fds vs) := by
  cases mode <;> cases v
  case hist.list =>
    show (f.go == X.eventsField && _ || _) = (!!(f.go == X.eventsField) && _ || _)
    rw [Bool.not_not]; rfl
  all_goals rfl

theorem nsErrItems_cons (mode : IMode) (v : Val α) (vs : List (Val α)) :
    nsErrItems g tb X mode (v :: vs) = (errStep g tb X (.item mode) v || nsErrItems g tb X mode vs) := by
  cases mode <;> cases v <;> rfl

theorem nsErrV_eq_step (fc : Option FieldD) (v : Val α) :
    nsErrV g tb X fc v = errStep g tb X (match fc with | some f => .field .plain f | none => .item .plain) v := by
  cases fc <;> cases v <;> rfl

theorem nsErr_eq_step (v : Val α) : nsErr g tb X v = errStep g tb X .root v := by
  unfold nsErr errStep
  cases v <;> rfl

theorem errStep_kv (c : Ctx) (k : α) (w : Val α) :
    errStep g tb X c (.kv k w) = (!c.skips g tb X (.kv k w) && errStep g tb X (.item .plain) w) := by
  rw [← nsErrV_eq_step none]; rfl

theorem nsErrFields_nil (mode : FMode) (vs : List (Val α)) : nsErrFields g tb X mode [] vs = false := by
  cases vs <;> rfl
variable (g tb X) in
theorem nsErrFields_nil' (mode : FMode) (fds : List FieldD) : nsErrFields g tb X mode fds ([] : List (Val α)) = false := by
  cases fds <;> rfl
theorem nsErrV_list (fc : Option FieldD) (l : List (Val α)) :
    nsErrV g tb X fc (.list l) = nsErrItems g tb X (if blobCtx tb fc then .blobs else .plain) l := rfl
theorem nsErrV_map (fc : Option FieldD) (l : List (Val α)) : nsErrV g tb X fc (.map l) = nsErrItems g tb X .plain l := rfl
theorem nsErrV_kv (fc : Option FieldD) (k : α) (v : Val α) : nsErrV g tb X fc (.kv k v) = nsErrV g tb X none v := rfl
theorem nsErrV_blobEv (fc : Option FieldD) (re : Bool) (evs : List (Val α)) :
    nsErrV g tb X fc (.blobEv re evs) = (blobCtx tb fc && !listSkippable g tb X evs && nsErrItems g tb X .plain evs) := rfl
variable (g tb X) in
theorem nsErrV_str (fc : Option FieldD) (s : α) : nsErrV g tb X fc (.str s) = false := rfl

theorem err_visit (hS : SkipStable g tb X mt) :
    (∀ c (v : Val α), errStep g tb X c (nsStep g tb X mt c v).1 = errStep g tb X c v) ∧
    (∀ mode fds (l : List (Val α)),
      nsErrFields g tb X mode fds (visitNsFields g tb X mt mode fds l).1 = nsErrFields g tb X mode fds l) ∧
    (∀ mode (l : List (Val α)), nsErrItems g tb X mode (visitNsItems g tb X mt mode l).1 = nsErrItems g tb X mode l) := by
  -- `errStep c v = !c.skips v && …`: the first factor is the same term before and after for a value that is no struct
  -- (`Ctx.skips` does not look into it), and `true` both times for a struct that is walked
  apply nsStep_ind g tb X
  · intro c v e _; rw [e]
  · intro c s ni f hl; rw [nsStep_str, hl]; rfl
  · intro c ty fs hs ih; rw [nsStep_msg hs]; simp only [errStep, hs, skips_stable hS hs, ih]
  · intro c l hs ih; rw [nsStep_list hs]; exact congrArg (_ && ·) ih
  · intro c l hs ih; rw [nsStep_map hs]; exact congrArg (_ && ·) ih
  · intro c k v hs ih; rw [nsStep_kv hs, errStep_kv, errStep_kv, ih]; rfl
  · intro c re evs ho hl ih
    obtain ⟨re', e⟩ := nsStep_blobEv_fst (mt := mt) ho hl
    rw [e, errStep, errStep, hl, hS.evs evs hl, ih]; rfl
  · intro mode vs; rw [visitNsFields_nil]
  · intro mode fds; rw [visitNsFields_nil']
  · intro mode f fds v vs ihv ihvs; rw [visitNsFields_cons, nsErrFields_cons, nsErrFields_cons, ihv, ihvs]
  · intro mode; rfl
  · intro mode v vs ihv ihvs; rw [visitNsItems_cons, nsErrItems_cons, nsErrItems_cons, ihv, ihvs]

theorem nsErr_translate (m : List (α × α)) (hE : MapNoNewEmpty X.empty m) (v : Val α) :
    nsErr g tb X (translateNs g tb X m v).1 = nsErr g tb X v := by
  rw [translateNs_eq_step, nsErr_eq_step, nsErr_eq_step, (err_visit (skipStable_of_map m hE)).1 _ v]

theorem names_visit (hS : SkipStable g tb X mt) (hN : NameOnce g tb) :
    (∀ c (v : Val α),
        namesStep g tb X c (nsStep g tb X mt c v).1 = (namesStep g tb X c v).map (fun s => (app mt s).1)) ∧
    (∀ mode fds (l : List (Val α)), namesFields g tb X mode fds (visitNsFields g tb X mt mode fds l).1 =
        (namesFields g tb X mode fds l).map (fun s => (app mt s).1)) ∧
    (∀ mode (l : List (Val α)), namesItems g tb X mode (visitNsItems g tb X mt mode l).1 =
        (namesItems g tb X mode l).map (fun s => (app mt s).1)) := by
  apply nsStep_ind g tb X
  · intro c v e en; rw [e, en]; rfl
  · intro c s ni f hl
    rw [nsStep_str, namesStep_str, hl, namesStep_str, hl]
    exact nsStrStep_names hN ni f s
  · intro c ty fs hs ih; rw [nsStep_msg hs, namesStep_msg hs, namesStep_msg (skips_stable hS hs), ih]
  · intro c l hs ih; rw [nsStep_list hs, namesStep_list hs, namesStep_list hs, ih]
  · intro c l hs ih; rw [nsStep_map hs, namesStep_map hs, namesStep_map hs, ih]
  · intro c k v hs ih; rw [nsStep_kv hs, namesStep_kv hs, namesStep_kv hs, ih]
  · intro c re evs ho hl ih
    obtain ⟨re', e⟩ := nsStep_blobEv_fst (mt := mt) ho hl
    rw [e, namesStep_blobEv, namesStep_blobEv, ho, hl, hS.evs evs hl]
    exact ih
  · intro mode vs; rw [visitNsFields_nil, namesFields_nil]; rfl
  · intro mode fds; rw [visitNsFields_nil', namesFields_nil']; rfl
  · intro mode f fds v vs ihv ihvs
    rw [visitNsFields_cons, namesFields_cons, namesFields_cons, List.map_append, ihv, ihvs]
  · intro mode; rfl
  · intro mode v vs ihv ihvs; rw [visitNsItems_cons, namesItems_cons, namesItems_cons, List.map_append, ihv, ihvs]

theorem visitedNames_translate (m : List (α × α)) (hE : MapNoNewEmpty X.empty m)
    (hN : tb.ns.contains g.nameField = false) (v : Val α) :
    visitedNames g tb X (translateNs g tb X m v).1 = (visitedNames g tb X v).map (translateName m) := by
  rw [translateNs_eq_step, visitedNames_eq_step, visitedNames_eq_step,
    (names_visit (skipStable_of_map m hE) (nameOnce_of hN)).1 _ v]
  apply List.map_congr_left
  intro s _
  rw [app_look, look_fst]

end S2S.TranslateVal
