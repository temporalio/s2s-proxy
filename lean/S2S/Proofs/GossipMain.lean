import S2S.Proofs.GossipInv
import S2S.Spec.Gossip
/-! C09, the two theorems behind the Props: exactly one owner from the invariant (`exactly_one_of_inv`, with
`fixed_stamp_eq_created` for the repaired stamp), and the leave clause, which needs no invariant: a departed node
stays absent from a table as long as no snapshot of it is merged (`absent_until_merge`, `departed_stays_absent`). -/
namespace S2S.Gossip

theorem exists_newest (l : List Claim) (s : ShardId) (h : ∃ k ∈ l, k.shard = s) :
    ∃ k ∈ l, k.shard = s ∧ ∀ k' ∈ l, k'.shard = s → k'.created ≤ k.created := by
  -- the largest `created` among the claims of `s`
  have mem {k} (hk : k ∈ l) (hs : k.shard = s) : k.created ∈ (l.filter (·.shard = s)).map (·.created) :=
    List.mem_map_of_mem (List.mem_filter.2 ⟨hk, decide_eq_true hs⟩)
  obtain ⟨k0, hk0, hs0⟩ := h
  obtain ⟨k, hk, e⟩ := List.mem_map.1 (List.max_mem (List.ne_nil_of_mem (mem hk0 hs0)))
  obtain ⟨hkl, hks⟩ := List.mem_filter.1 hk
  exact ⟨k, hkl, of_decide_eq_true hks, fun k' hk' hs' => e ▸ List.le_max_of_mem (mem hk' hs')⟩

theorem exactly_one_of_inv {σ : State} (i : Inv σ) {s : ShardId} (hset : Settled σ s) (hdis : DisjointWindows σ s) :
    ∃ k, IsNewest σ s k ∧ OwnersAre σ s k.node k.created := by
  obtain ⟨k, hk, hks, hmax⟩ := exists_newest σ.claims s hset.claimed
  refine ⟨k, ⟨hk, hks, hmax⟩, ?_⟩
  obtain ⟨hkw1, _, hkadd⟩ := i.claimWf k hk
  rw [hks] at hkadd
  -- every local entry of `s` anywhere is a recorded claim
  have claimOf : ∀ m c, aget (σ.node m).locals s = some c → ∃ k' ∈ σ.claims, k'.node = m ∧ k'.shard = s ∧ k'.created = c := by
    intro m c h
    exact hset.announced (m, s, c) (i.localAdds m s c h) rfl
  intro m
  by_cases hm : m = k.node
  · subst hm
    simp only [if_true]
    rcases i.accounted k.node s k.created hkadd with h | ⟨t, h⟩ | h | ⟨c', h, hlt⟩
    · exact h
    · -- evicted by the announcement of some claim k' of another node: impossible with disjoint windows
      exfalso
      obtain ⟨hct, src, hreg⟩ := i.evictedWhy k.node s k.created t h
      obtain ⟨hne, c', hk'⟩ := i.regFrom src s t k.node hreg
      have hle := hmax ⟨src, s, c', t⟩ hk' rfl
      rcases hdis k hk ⟨src, s, c', t⟩ hk' hks rfl (fun e => hne e.symm) with h1 | h1
      · exact absurd (Nat.lt_of_le_of_lt hkw1 h1) (Nat.not_lt.2 hle)
      · exact absurd hct (Nat.not_lt.2 (Nat.le_of_lt h1))
    · exact absurd rfl (hset.noEnd _ h)
    · exfalso
      obtain ⟨k', hk', hn', hs', hc'⟩ := hset.announced (k.node, s, c') h rfl
      have := hmax k' hk' hs'
      rw [hc'] at this
      exact absurd hlt (Nat.not_lt.2 this)
  · simp only [hm, if_false]
    cases hl : aget (σ.node m).locals s with
    | none => rfl
    | some c =>
      -- a foreign holder `(m, c)` was announced (`claimOf`: `k'`) and saw `k`'s announcement (`hset.delivered`, `Inv.seen`),
      -- so `k.stamp ≤ c ≤ k.created`: the windows of `k` and `k'` meet, against `hdis`
      exfalso
      obtain ⟨k', hk', hn', hs', hc'⟩ := claimOf m c hl
      have hne : k.node ≠ k'.node := fun e => hm (hn' ▸ e.symm)
      have hdel := hset.delivered k hk k' hk' hks hs' hne
      unfold regItem at hdel
      rw [hks, hn'] at hdel
      have h1 : k.stamp ≤ c := i.seen m s c k.node k.stamp hl hdel
      have h2 : c ≤ k.created := hc' ▸ hmax k' hk' hs'
      obtain ⟨hw', _, _⟩ := i.claimWf k' hk'
      rcases hdis k hk k' hk' hks hs' hne with h3 | h3
      · rw [hc'] at h3
        exact absurd (Nat.lt_of_le_of_lt (Nat.le_trans h2 hkw1) h3) (Nat.lt_irrefl _)
      · rw [hc'] at hw'
        exact absurd (Nat.lt_of_le_of_lt hw' (Nat.lt_of_lt_of_le h3 (Nat.le_trans hkw1 h1))) (Nat.lt_irrefl _)

@[simp] theorem unregister_claims (σ : State) (n s c) : (unregister σ n s c).claims = σ.claims := by
  simp only [unregister]; split <;> rfl

theorem step_claims (cfg : Cfg) (σ : State) (a : Act) :
    (step cfg σ a).claims = σ.claims ∨
    ∃ n s c, (step cfg σ a).claims = ⟨n, s, c, if cfg.stampAtBroadcast then σ.clock else c⟩ :: σ.claims := by
  cases a with
  | announce n s =>
    simp only [step]
    split
    · exact .inl rfl
    · exact .inr ⟨n, s, _, rfl⟩
  | streamEnd n s c id =>
    left; rw [step_streamEnd]; unfold dropChan endStream
    split <;> split <;> simp
  | deliver it keep =>
    left; rw [step_deliver]; split
    · cases it with
      | snap => rfl
      | ann kind => cases kind <;> simp only [recv, notifyMsg] <;> (repeat' split) <;> simp [bookSt]
    · rfl
  | _ => exact .inl rfl

/-- with the announcement stamped by `Created` (repaired model) every claim window is a point -/
theorem fixed_stamp_eq_created (acts : List Act) :
    ∀ k ∈ (run Cfg.fixed State.init acts).claims, k.stamp = k.created := by
  refine run_induct (Q := fun σ _ => ∀ k ∈ σ.claims, k.stamp = k.created) (fun {σ a _} h => ?_) acts _ nofun
  rcases step_claims Cfg.fixed σ a with e | ⟨n, s, c, e⟩ <;> rw [e]
  · exact h
  · exact List.forall_mem_cons.2 ⟨rfl, h⟩

theorem Quiet.remote_none {σ σ' : State} (q : Quiet σ σ') {n m : NodeId} (h : aget (σ.node m).remote n = none) :
    aget (σ'.node m).remote n = none := by
  rw [q.remote]; exact h

theorem Quiet.noSnap {σ σ' : State} (q : Quiet σ σ') {n m : NodeId} (h : NoSnapInFlight σ n m) : NoSnapInFlight σ' n m
  | .ann .., _ => rfl
  | .snap .., hm => h _ (q.snaps _ _ _ hm)

theorem leave_removes (cfg : Cfg) (σ : State) (m n : NodeId) :
    aget ((step cfg σ (.leave m n)).node m).remote n = none := by
  simp [step, aget_aerase]

theorem mergeRemote_remote_none {σ : State} {n m : NodeId} (h : aget (σ.node m).remote n = none) (src tbl dst)
    (hne : ¬ (src = n ∧ dst = m)) : aget ((mergeRemote σ src tbl dst).node m).remote n = none := by
  simp only [mergeRemote, setNode_node]
  split
  · next hk =>
    subst hk
    rw [aget_aset, if_neg fun e => hne ⟨e.symm, rfl⟩]; exact h
  · exact h

theorem step_remote_none (cfg : Cfg) {σ : State} {a : Act} {n m : NodeId}
    (h : aget (σ.node m).remote n = none)
    (hno : mergesFrom n m a = false) :
    aget ((step cfg σ a).node m).remote n = none := by
  cases a with
  | tick | add | announce | streamEnd => exact (step_quiet cfg σ rfl).remote_none h
  | deliver it keep =>
    cases it with
    | ann => exact (step_quiet cfg σ rfl).remote_none h
    | snap src tbl dst =>
      rw [step_deliver]; split
      · exact mergeRemote_remote_none h src tbl dst (by rintro ⟨rfl, rfl⟩; simp [mergesFrom] at hno)
      · exact h
  | snapshot k k' => exact mergeRemote_remote_none h k _ k' (by rintro ⟨rfl, rfl⟩; simp [mergesFrom] at hno)
  | snapSend => exact h
  | leave k k' =>
    simp only [step, setNode_node]
    split
    · next hk => subst hk; rw [aget_aerase]; split <;> first | rfl | exact h
    · exact h

theorem absent_until_merge (cfg : Cfg) (acts : List Act) {σ : State} {n m : NodeId}
    (h : aget (σ.node m).remote n = none) (hno : NoMergeFrom n m acts) :
    aget ((run cfg σ acts).node m).remote n = none :=
  (run_induct (Q := fun σ r => aget (σ.node m).remote n = none ∧ NoMergeFrom n m r)
    (fun h => have h' := List.forall_mem_cons.1 h.2; ⟨step_remote_none cfg h.1 h'.1, h'.2⟩) acts σ ⟨h, hno⟩).1

theorem step_no_snap (cfg : Cfg) {σ : State} {a : Act} {n m : NodeId}
    (h : NoSnapInFlight σ n m) (hs : snapshotsOf n a = false) : NoSnapInFlight (step cfg σ a) n m := by
  cases a with
  | tick | add | announce | streamEnd => exact (step_quiet cfg σ rfl).noSnap h
  | deliver it keep =>
    cases it with
    | ann => exact (step_quiet cfg σ rfl).noSnap h
    | snap =>
      rw [step_deliver]; split
      · exact (Quiet.bookSt ..).noSnap h
      · exact h
  | snapshot | leave => exact h
  | snapSend k k' =>
    intro it hm
    rcases List.mem_append.1 hm with hm | hm
    · exact h it hm
    · cases List.mem_singleton.1 hm; simp only [isSnapFromTo, show (k == n) = false from hs, Bool.false_and]

theorem departed_stays_absent (cfg : Cfg) (acts : List Act) {σ : State} {n m : NodeId}
    (h : aget (σ.node m).remote n = none) (hnet : NoSnapInFlight σ n m) (hsil : Silent n acts) :
    aget ((run cfg σ acts).node m).remote n = none := by
  refine (run_induct (Q := fun σ r => aget (σ.node m).remote n = none ∧ NoSnapInFlight σ n m ∧ Silent n r)
    (fun {σ a _} ⟨h, hnet, hsil⟩ => ?_) acts σ ⟨h, hnet, hsil⟩).1
  obtain ⟨ha, hsil⟩ := List.forall_mem_cons.1 hsil
  refine ⟨?_, step_no_snap cfg hnet ha, hsil⟩
  -- a snapshot of `n` for `m` could only be one that is delivered, and none is in flight
  cases hmf : mergesFrom n m a with
  | false => exact step_remote_none cfg h hmf
  | true =>
    cases a with
    | snapshot a b => simp only [mergesFrom, Bool.and_eq_true] at hmf; cases hmf.1.symm.trans ha
    | deliver it keep =>
      cases it with
      | ann => cases hmf
      | snap a tbl b =>
        have : Item.snap a tbl b ∉ σ.net := fun hm => nomatch hmf.symm.trans (hnet (.snap a tbl b) hm)
        simp only [step, this, if_false]
        exact h
    | _ => cases hmf

end S2S.Gossip
