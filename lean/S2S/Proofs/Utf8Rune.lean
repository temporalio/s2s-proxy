import S2S.Model.Utf8
/-!
`runeLen` (Go's `DecodeRuneInString` reduced to widths) against Unicode Table 3-7.  `first` is read
once, forwards, row by row; everything after that speaks of `Rune`, the well-formed byte sequences,
and not of `first`.
-/
namespace S2S.Utf8

theorem inRange_iff {lo hi : Nat} {b : UInt8} : inRange lo hi b = true ↔ lo ≤ b.toNat ∧ b.toNat ≤ hi := by
  simp [inRange]

/-- `isCont` as inequalities (an `abbrev`, like `Second`: `omega` sees through it) -/
abbrev Cont (b : UInt8) : Prop := 0x80 ≤ b.toNat ∧ b.toNat ≤ 0xBF

theorem isCont_iff {b : UInt8} : isCont b = true ↔ Cont b := inRange_iff

/-- The second-byte column of Unicode Table 3-7 (Go's `acceptRanges`): after lead byte `a` a
    continuation byte, narrowed after E0 / F0 (no overlong forms), ED (no surrogates) and F4 (nothing
    above U+10FFFF).  For the other lead bytes the four special clauses are void. -/
abbrev Second (a b : UInt8) : Prop :=
  Cont b ∧ (a.toNat = 0xE0 → 0xA0 ≤ b.toNat) ∧ (a.toNat = 0xED → b.toNat ≤ 0x9F) ∧
    (a.toNat = 0xF0 → 0x90 ≤ b.toNat) ∧ (a.toNat = 0xF4 → b.toNat ≤ 0x8F)

theorem second_plain {a b : UInt8} (h : a.toNat ≠ 0xE0 ∧ a.toNat ≠ 0xED ∧ a.toNat ≠ 0xF0 ∧ a.toNat ≠ 0xF4) :
    Cont b ↔ Second a b :=
  ⟨fun hc => ⟨hc, (absurd · h.1), (absurd · h.2.1), (absurd · h.2.2.1), (absurd · h.2.2.2)⟩, (·.1)⟩

/-! `split` on the ten-branch chain of `first` is very slow; the conditions are discharged one by one (`if_neg` first where
the row lies deep in the chain: what costs is an `omega` that fails). -/

theorem first_one {a : UInt8} (h : a.toNat < 0x80) : first a = (1, 0, 0) := by
  simp [first, h]

theorem first_none {a : UInt8} (h : 0x80 ≤ a.toNat ∧ a.toNat < 0xC2 ∨ 0xF4 < a.toNat) : first a = (0, 0, 0) := by
  rcases h with h | h <;> simp (disch := omega) only [first, if_neg, if_pos]

theorem first_two {a : UInt8} (h : 0xC2 ≤ a.toNat) (h' : a.toNat < 0xE0) :
    ∃ lo hi, first a = (2, lo, hi) ∧ ∀ b, inRange lo hi b = true ↔ Second a b := by
  refine ⟨0x80, 0xBF, by simp (disch := omega) only [first, if_pos, if_neg], fun b => ?_⟩
  rw [inRange_iff]; exact second_plain (by omega)

theorem first_three {a : UInt8} (h : 0xE0 ≤ a.toNat) (h' : a.toNat < 0xF0) :
    ∃ lo hi, first a = (3, lo, hi) ∧ ∀ b, inRange lo hi b = true ↔ Second a b := by
  by_cases e0 : a.toNat = 0xE0
  · refine ⟨0xA0, 0xBF, by simp [first, e0], fun b => ?_⟩
    rw [inRange_iff]; omega
  · by_cases ed : a.toNat = 0xED
    · refine ⟨0x80, 0x9F, by simp [first, ed], fun b => ?_⟩
      rw [inRange_iff]; omega
    · refine ⟨0x80, 0xBF, by simp (disch := omega) only [first, if_neg, if_pos], fun b => ?_⟩
      rw [inRange_iff]; exact second_plain (by omega)

theorem first_four {a : UInt8} (h : 0xF0 ≤ a.toNat) (h' : a.toNat ≤ 0xF4) :
    ∃ lo hi, first a = (4, lo, hi) ∧ ∀ b, inRange lo hi b = true ↔ Second a b := by
  by_cases e0 : a.toNat = 0xF0
  · refine ⟨0x90, 0xBF, by simp [first, e0], fun b => ?_⟩
    rw [inRange_iff]; omega
  · by_cases e4 : a.toNat = 0xF4
    · refine ⟨0x80, 0x8F, by simp [first, e4], fun b => ?_⟩
      rw [inRange_iff]; omega
    · refine ⟨0x80, 0xBF, by simp (disch := omega) only [first, if_neg, if_pos], fun b => ?_⟩
      rw [inRange_iff]; exact second_plain (by omega)

/-- Unicode Table 3-7, the well-formed UTF-8 byte sequences, one constructor per width: what Go's
    `first` / `acceptRanges` tables accept as one rune, without the tables. -/
inductive Rune : Bytes → Prop
  | one {a : UInt8} : a.toNat < 0x80 → Rune [a]
  | two {a b : UInt8} : 0xC2 ≤ a.toNat → a.toNat < 0xE0 → Second a b → Rune [a, b]
  | three {a b c : UInt8} : 0xE0 ≤ a.toNat → a.toNat < 0xF0 → Second a b → Cont c → Rune [a, b, c]
  | four {a b c d : UInt8} : 0xF0 ≤ a.toNat → a.toNat ≤ 0xF4 → Second a b → Cont c → Cont d →
      Rune [a, b, c, d]

theorem Rune.ne_nil {r : Bytes} (h : Rune r) : r ≠ [] := by cases h <;> simp

theorem Rune.decodes {r : Bytes} (h : Rune r) (t : Bytes) : runeLen (r ++ t) = r.length := by
  cases h with
  | one h => simp [runeLen, first_one h]
  | two h h' hb => obtain ⟨lo, hi, f, hr⟩ := first_two h h'; simp [runeLen, f, (hr _).2 hb]
  | three h h' hb hc => obtain ⟨lo, hi, f, hr⟩ := first_three h h'; simp [runeLen, f, (hr _).2 hb, isCont_iff.2 hc]
  | four h h' hb hc hd => obtain ⟨lo, hi, f, hr⟩ := first_four h h'; simp [runeLen, f, (hr _).2 hb, isCont_iff.2 hc, isCont_iff.2 hd]

theorem exists_rune {s : Bytes} (h : 0 < runeLen s) : ∃ r t, s = r ++ t ∧ Rune r := by
  -- as an inequation `simp` reads `h` as the condition under which `runeLen` returns the width
  rw [Nat.pos_iff_ne_zero] at h
  cases s with
  | nil => exact absurd rfl h
  | cons a s =>
    have : a.toNat < 0x80 ∨ (0x80 ≤ a.toNat ∧ a.toNat < 0xC2 ∨ 0xF4 < a.toNat) ∨ (0xC2 ≤ a.toNat ∧ a.toNat < 0xE0) ∨
        (0xE0 ≤ a.toNat ∧ a.toNat < 0xF0) ∨ (0xF0 ≤ a.toNat ∧ a.toNat ≤ 0xF4) := by omega
    rcases this with h1 | h0 | ⟨h2, h2'⟩ | ⟨h3, h3'⟩ | ⟨h4, h4'⟩
    · exact ⟨[a], s, rfl, .one h1⟩
    · simp [runeLen, first_none h0] at h
    · obtain ⟨lo, hi, f, hr⟩ := first_two h2 h2'
      match s with
      | [] => simp [runeLen, f] at h
      | b :: s =>
        simp [runeLen, f] at h
        exact ⟨[a, b], s, rfl, .two h2 h2' ((hr b).1 h)⟩
    · obtain ⟨lo, hi, f, hr⟩ := first_three h3 h3'
      match s with
      | [] | [_] => simp [runeLen, f] at h
      | b :: c :: s =>
        simp [runeLen, f] at h
        exact ⟨[a, b, c], s, rfl, .three h3 h3' ((hr b).1 h.1) (isCont_iff.1 h.2)⟩
    · obtain ⟨lo, hi, f, hr⟩ := first_four h4 h4'
      match s with
      | [] | [_] | [_, _] => simp [runeLen, f] at h
      | b :: c :: d :: s =>
        simp [runeLen, f] at h
        exact ⟨[a, b, c, d], s, rfl, .four h4 h4' ((hr b).1 h.1) (isCont_iff.1 h.2.1) (isCont_iff.1 h.2.2)⟩

theorem runeLen_nil : runeLen [] = 0 := rfl

theorem runeLen_pos_ne_nil {s : Bytes} (h : 0 < runeLen s) : s ≠ [] := by
  intro e; subst e; exact absurd h (Nat.lt_irrefl 0)

theorem runeLen_le_four (s : Bytes) : runeLen s ≤ 4 := by
  rcases Nat.eq_zero_or_pos (runeLen s) with h | h
  · omega
  · obtain ⟨r, t, rfl, hr⟩ := exists_rune h
    rw [hr.decodes]; cases hr <;> simp

theorem runeLen_append (s t : Bytes) (h : 0 < runeLen s) : runeLen (s ++ t) = runeLen s := by
  obtain ⟨r, u, rfl, hr⟩ := exists_rune h
  rw [List.append_assoc, hr.decodes, hr.decodes]

theorem runeLen_ascii (b : UInt8) (t : Bytes) (h : b.toNat < 0x80) : runeLen (b :: t) = 1 :=
  (Rune.one h).decodes t

end S2S.Utf8
