import S2S.Proofs.RoutingRingRef
/-!
C05R, the inductive step: every action of the routing machine (faults included) preserves the
relation between target `t`'s abstract ring and the C05 reference of its ghost op history.
-/
namespace S2S.Routing

open S2S.Ring (Op Entry Key Ref Good)

/-- per-target invariant: ring/history relation, and the discard count carried by `recvAck` never
    exceeds the ring's length -/
def TInv (tg : Target) (ops : List Op) : Prop :=
  RInv tg.ring tg.nextProxyId ops ∧
  ∀ todo d rec, tg.ackPc = .forwarding todo d rec → d ≤ tg.ring.length

theorem TInv.default : TInv {} [] := ⟨⟨trivial, RRel.init⟩, fun _ _ _ h => by cases h⟩

theorem TInv.frame {tg tg' : Target} {ops : List Op} (h : TInv tg ops) (h1 : tg'.ring = tg.ring := by rfl)
    (h2 : tg'.nextProxyId = tg.nextProxyId := by rfl) (h3 : tg'.ackPc = tg.ackPc := by rfl) : TInv tg' ops := by
  unfold TInv; rw [h1, h2, h3]; exact h

theorem TInv.setTgt_of {σ : State} {t : TId} {ops : List Op} (h : TInv (σ.tgt t) ops) (t' : TId) (x : Target)
    (hx : TInv (σ.tgt t') ops → TInv x ops) : TInv ((σ.setTgt t' x).tgt t) ops :=
  rel_setTgt (R := fun _ tg tg' => TInv tg ops → TInv tg' ops) (fun _ _ => id) σ hx t h

theorem TInv.setTgt {σ : State} {t t' : TId} {ops ops' : List Op} (h : TInv (σ.tgt t) ops) (x : Target)
    (ht' : t' < σ.targets.length) (hx : t' = t → TInv x ops') :
    TInv ((σ.setTgt t' x).tgt t) (if t' = t then ops' else ops) := by
  rw [tgt_setTgt]
  by_cases e : t' = t
  · rw [if_pos e, if_pos ⟨e.symm, ht'⟩]; exact hx e
  · rw [if_neg e, if_neg fun h' => e h'.1.symm]; exact h

theorem TInv.process {tg : Target} {ops : List Op} (h : TInv tg ops) (m : Msg) :
    TInv (process tg m) (ops ++ appendOps tg.nextProxyId m) := by
  have hd (l : ARing) : ∀ todo d rec, tg.ackPc = .forwarding todo d rec → d ≤ (tg.ring ++ l).length :=
    fun _ _ _ e => Nat.le_trans (h.2 _ _ _ e) (by simp)
  cases m with
  | tasks s ids => exact ⟨by simpa only [Routing.process, process_entries_eq, appendOps] using h.1.tasks s ids, hd _⟩
  | wm s hv => exact ⟨h.1.append s hv, hd _⟩

theorem step_tinv (c : Cfg) (σ : State) (t : TId) (ops : List Op) (a : Act) (h : TInv (σ.tgt t) ops) :
    TInv (((step c σ a).getD σ).tgt t) (ringOpsNext c σ t ops a) := by
  cases hs : step c σ a with
  | none => simp only [ringOpsNext, hs, Option.getD_none]; exact h
  | some σ' =>
    rw [Option.getD_some]
    cases Step.of_step hs <;> simp only [ringOpsNext, hs]
    case take hst hh hch =>
      refine h.setTgt _ (tgt_lt_of_started σ hst) fun e => ?_
      subst e; rw [hch]
      exact TInv.process h.frame _
    case tack hst hpc =>
      refine h.setTgt _ (tgt_lt_of_started σ hst) fun e => ?_
      subst e
      -- the count carried to `ackFin` is the length of a prefix of the ring
      refine ⟨h.1.snoc _ trivial h.1.2, fun _ _ _ e => ?_⟩
      rw [tackPc_count e]; exact (List.takeWhile_sublist _).length_le
    case ackFin hpc =>
      refine h.setTgt _ (tgt_lt_of_ackPc σ _ (hpc ▸ nofun)) fun e => ?_
      subst e; rw [hpc]
      exact ⟨h.1.snoc _ trivial (h.1.2.discard _), fun _ _ _ e => by cases e⟩
    case openTgt hreg hlt => exact h.setTgt _ hlt fun _ => TInv.default.frame
    case breakTgt hreg => exact h.setTgt _ (tgt_lt_of_registered σ hreg) fun _ => TInv.default.frame
    case ackFwd hpc hag hact hroom =>
      -- the discard count travels unchanged
      exact h.setTgt_of _ _ fun h' => ⟨h'.1, fun _ _ _ e => by cases e; exact h'.2 _ _ _ hpc⟩
    case tick => rw [tick_tgt, tickTgt_eq]; exact h.frame
    case bcastSend | deliver | emit | startTgt | replaySend | replaySkip | replayDone =>
      exact TInv.setTgt_of h _ _ (·.frame)
    -- the other actions write to a source only
    all_goals exact h

theorem run_tinv (c : Cfg) (t : TId) (acts : List Act) (σ : State) (ops : List Op) (h : TInv (σ.tgt t) ops) :
    TInv ((run c σ acts).tgt t) (ringOpsFrom c t σ ops acts) := by
  induction acts generalizing σ ops with
  | nil => exact h
  | cons a rest ih =>
    rw [run_cons]
    exact ih _ _ (step_tinv c σ t ops a h)

theorem tinv_reach (c : Cfg) (ns nt : Nat) (acts : List Act) (t : TId) :
    TInv ((run c (State.init ns nt) acts).tgt t) (ringOps c (State.init ns nt) acts t) := by
  apply run_tinv
  rw [tgt_init]; exact TInv.default

end S2S.Routing
