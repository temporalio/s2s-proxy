import S2S.Proofs.RoutingFaultBasic
/-! `InvF` along the steps that end or start an incarnation; `breakSrc` and `openTgt` are short enough to stand in
    `step_invF`, from the lemmas here. -/
namespace S2S.Routing

/-- `breakSrc`, `openSrc`: the current incarnation has received nothing (`hN`), so every clause about needed tasks is
    vacuous; the bounds by `M` on what the target still holds stay -/
theorem PairF.src_reset {N N' : Int → Prop} {M : Int} {s : SId} {t : TId} {x : Source} {tg : Target}
    (h : PairF N M s t x tg) (hN : ∀ id, ¬ N' id) (x' : Source)
    (hpc : x'.pc = .idle := by rfl) (hch : x'.ackChan = [] := by rfl) (habt : x'.ackByTarget = [] := by rfl)
    (hlast : x'.lastSentAck = none := by rfl) : PairF N' M s t x' tg := by
  have vac : ∀ {p : Int → Prop} id, N' id → p id := fun id hn => absurd hn (hN id)
  have hfl : flat s t x' tg = chanVals s tg.sendChan := by
    simp only [flat, hpc, pendVals_idle, List.append_nil]
  exact { h.mono vac (Int.le_refl M) with
    cover := vac, sorted := List.pairwise_of_forall fun _ _ _ hn => absurd hn (hN _)
    flat_le := fun y hy => h.flat_le y (List.mem_append_left _ (hfl ▸ hy))
    chan_safe := hch ▸ nofun, abt_safe := habt ▸ nofun, last_safe := hlast ▸ nofun
    seeded := vac, cur_lt := vac, grave_low := fun _ _ _ => vac }

theorem SrcF.broken {M : Int} {x : Source} (hS : SrcF M x) :
    SrcF M { inc := x.inc, received := x.received, acksSent := x.acksSent,
             graveyard := x.graveyard ++ [(x.inc, x.lastWatermark)] } := by
  refine ⟨nofun, nofun, nofun, hS.m_nonneg, nofun, nofun, fun i g hg => ?_, hS.m_nonneg⟩
  rcases List.mem_append.1 (show (i, some g) ∈ x.graveyard ++ [(x.inc, x.lastWatermark)] from hg) with hg | hg
  · exact hS.grave_le i g hg
  · simp only [List.mem_singleton, Prod.mk.injEq] at hg
    exact Int.le_trans (hS.wm_le g hg.2.symm) hS.high_le

theorem invF_openSrc {c : Cfg} {σ σ' : State} {γ : Ghost} (hI : InvF σ γ) {s : SId} (st : Step c σ (.openSrc s) σ') :
    InvF σ' (γ.upd σ (.openSrc s)) := by
  cases st with | openSrc _ _ hsl =>
  have hS := hI.src s
  refine invF_setSrc_ghost hI hsl (fun _ _ => rfl) (fun _ e => baseOf_upd_ne e) (fun _ => rfl)
    ⟨nofun, nofun, nofun, hS.m_nonneg, nofun, nofun, hS.grave_le, hS.m_nonneg⟩
    (fun t => (hI.pair s t).src_reset (fun id hn => cur_base_full ?_ id hn.1) _)
  simp only [ebase, baseOf_upd_self, if_true]

/-- `breakTgt`: the tasks the target had been handed are lost, hence needed no more (`hN`). A needed task that remains
    has no proxy id (`asg_handed`) and is not in the channel (`chan_handed`): it is pending at the source, which is
    what `cover` asks for an empty target -/
theorem PairF.tgt_break {N N' : Int → Prop} {M : Int} {s : SId} {t : TId} {x : Source} {tg : Target}
    (h : PairF N M s t x tg) (hT : TgtF tg)
    (hN : ∀ id, N' id → N id ∧ (s, id) ∉ tasksOf tg.handed) : PairF N' M s t x tg.reset := by
  have h' := h.mono (fun id hn => (hN id hn).1) (Int.le_refl M)
  -- `flat s t x tg.reset` reduces to `pendVals x.pc t`
  refine { h' with
    cover := fun id hn => ?_, sorted := (List.pairwise_append.1 h'.sorted).2.1
    flat_le := fun y hy => h.flat_le y (List.mem_append_right _ hy)
    ring_ok := nofun, ring_le := nofun, todo_safe := nofun, prev_safe := nofun }
  obtain ⟨hn1, hnl⟩ := hN id hn
  rcases h.cover id hn1 with ⟨p, hp⟩ | hc
  · exact absurd (hT.asg_handed s id p hp) hnl
  · rcases List.mem_append.1 hc with hc | hc
    · obtain ⟨ids, hm, hid⟩ := mem_chanVals_task hc
      exact absurd (mem_tasksOf (hT.chan_handed _ hm) hid) hnl
    · exact .inr hc

theorem invF_breakTgt {σ : State} {γ : Ghost} (hI : InvF σ γ) {t : TId} (hreg : (σ.tgt t).registered = true) :
    InvF (σ.setTgt t (σ.tgt t).reset) (γ.upd σ (.breakTgt t)) := by
  refine hI.setTgt' (tgt_lt_of_registered σ hreg) (fun _ _ a => a)
    (fun s t' e hp => hp.mono (fun id hn => hn.of_eq (hl := ?_)) (Int.le_refl _)) ⟨fun _ => rfl, nofun, nofun, nofun⟩
    (fun s => (hI.pair s t).tgt_break (hI.tgt t) (fun id hn => ?_))
  · exact lostOf_upd_ne e
  · unfold Need at hn ⊢
    rw [lostOf_upd_self, List.mem_append, not_or] at hn
    exact ⟨⟨hn.1, hn.2.1⟩, hn.2.2⟩

end S2S.Routing
