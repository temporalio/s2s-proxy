import S2S.Spec.MuxPool
import S2S.Proofs.Run
/-! `S2S.MuxPool.step` as a relation (`Step`), and counting lemmas for the connection table (C10). -/
namespace S2S.MuxPool

/-- entries whose stage satisfies `f`, so that `cntS_setConn` is proved once for every stage predicate;
    by `rfl`, `σ.cntS Stage.isHeld = σ.heldCount` and `σ.cntS Stage.isRegistered = σ.registeredCount` -/
def St.cntS (σ : St) (f : Stage → Bool) : Nat := σ.conns.countP (fun x => f x.stage)

/-- stages of an attempt in the provider loop's hands: not failed, not handed to the manager -/
def Stage.isAttempt : Stage → Bool | .raw | .sessioned => true | _ => false
def Stage.isLost : Stage → Bool | .dropped | .abandoned => true | _ => false
/-- stages in which the code still owns the connection and will close it later -/
def Stage.isOwned : Stage → Bool | .raw | .sessioned | .registered _ => true | _ => false
/-- stages in which a yamux session may still be running -/
def Stage.maySess : Stage → Bool | .sessioned | .registered _ | .dropped | .abandoned => true | _ => false

theorem conn_eq {σ : St} {c : Nat} (h : c < σ.conns.length) : σ.conn c = σ.conns[c] := by
  simp [St.conn, List.getD, h]

theorem mem_setConn {σ : St} {c : Nat} {x y : Conn} (h : y ∈ (σ.setConn c x).conns) : y = x ∨ y ∈ σ.conns :=
  (List.mem_or_eq_of_mem_set h).symm

theorem conn_mem {σ : St} {c : Nat} (h : c < σ.conns.length) : σ.conn c ∈ σ.conns := by
  rw [conn_eq h]; exact List.getElem_mem h

theorem length_setConn (σ : St) (c : Nat) (x : Conn) : (σ.setConn c x).conns.length = σ.conns.length := by
  simp [St.setConn]

theorem getD_set_same (l : List Conn) (c : Nat) (x : Conn) (h : c < l.length) : (l.set c x).getD c {} = x := by
  simp [List.getD, h]

theorem conn_setConn_same {σ : St} {c : Nat} {x : Conn} (h : c < σ.conns.length) : (σ.setConn c x).conn c = x :=
  getD_set_same _ c x h

theorem conn_setConn_of_ne {σ : St} {c c' : Nat} {x : Conn} (h : c' ≠ c) : (σ.setConn c x).conn c' = σ.conn c' := by
  simp [St.conn, St.setConn, List.getD, Ne.symm h]

theorem exists_index_of_mem {σ : St} {x : Conn} (h : x ∈ σ.conns) : ∃ c, c < σ.conns.length ∧ σ.conn c = x := by
  obtain ⟨c, hc, rfl⟩ := List.getElem_of_mem h
  exact ⟨c, hc, conn_eq hc⟩

theorem wsum_append (w : Conn → Nat) (l r : List Conn) : wsum w (l ++ r) = wsum w l + wsum w r := by
  induction l with
  | nil => simp [wsum]
  | cons x l ih => simp [wsum, ih]; omega

theorem wsum_set (w : Conn → Nat) (l : List Conn) (c : Nat) (x : Conn) (h : c < l.length) :
    wsum w (l.set c x) + w l[c] = wsum w l + w x := by
  -- both lists are `l.take c ++ _ :: l.drop (c + 1)`
  rw [List.set_eq_take_append_cons_drop, if_pos h]
  conv => rhs; rw [← List.take_append_drop c l, List.drop_eq_getElem_cons h]
  simp only [wsum_append, wsum]; omega

theorem wsum_setConn (w : Conn → Nat) {σ : St} {c : Nat} (x : Conn) (h : c < σ.conns.length) :
    wsum w (σ.conns.set c x) + w (σ.conn c) = wsum w σ.conns + w x := by
  rw [conn_eq h]; exact wsum_set w σ.conns c x h

theorem wsum_lt_of {w : Conn → Nat} {σ σ' : St} {c : Nat} {x : Conn} (hlen : c < σ.conns.length)
    (hc : σ'.conns = σ.conns.set c x) {a b : Nat} (h : a + w x < b + w (σ.conn c)) :
    a + wsum w σ'.conns < b + wsum w σ.conns := by
  have := wsum_setConn w x hlen; rw [hc]; omega

/-- counting is summing 0/1 weights, so the table lemmas for `wsum` serve the counts too -/
theorem countP_eq_wsum (p : Conn → Bool) (l : List Conn) : l.countP p = wsum (fun x => (p x).toNat) l := by
  induction l with
  | nil => rfl
  | cons x l ih => rw [List.countP_cons, wsum, ih]; cases p x <;> simp <;> omega

theorem cntS_setConn {σ : St} {c : Nat} (x : Conn) (f : Stage → Bool) (h : c < σ.conns.length) :
    (σ.setConn c x).cntS f + (f (σ.conn c).stage).toNat = σ.cntS f + (f x.stage).toNat := by
  simpa [St.cntS, St.setConn, countP_eq_wsum] using wsum_setConn (fun y => (f y.stage).toNat) x h

inductive Step (d : Defects) (σ : St) : Act → St → Prop
  | acquire (hp : σ.phase = .idle) (hl : σ.live = true) (hn : 0 < σ.permits) :
      Step d σ .acquire { σ with permits := σ.permits - 1, phase := .acquired }
  | acquireFail (hp : σ.phase = .idle) (hl : σ.live = false) : Step d σ .acquireFail { σ with phase := .exited }
  | connErrDead (hp : σ.phase = .acquired) (hl : σ.live = false) :
      Step d σ .connErr { σ with phase := .exited, lostPermits := σ.lostPermits + 1 }
  | connErr (hp : σ.phase = .acquired) (hl : σ.live = true) : Step d σ .connErr { σ with phase := .idle, permits := σ.permits + 1 }
  | connOk (hp : σ.phase = .acquired) : Step d σ .connOk { σ with phase := .haveConn σ.conns.length, conns := σ.conns ++ [{}] }
  | sessErrDead {c} (hp : σ.phase = .haveConn c) (hl : σ.live = false) :
      Step d σ .sessErr { (σ.setConn c { (if d.exitLeaksAttempt then σ.conn c else (σ.conn c).closeBoth) with stage := .abandoned }) with
        phase := .exited, lostPermits := σ.lostPermits + 1 }
  | sessErr {c} (hp : σ.phase = .haveConn c) (hl : σ.live = true) :
      Step d σ .sessErr { (σ.setConn c { (if d.sessErrLeavesConn then σ.conn c else (σ.conn c).closeBoth) with stage := .rawFailed }) with
        phase := .idle, permits := σ.permits + 1 }
  | sessOk {c} (hp : σ.phase = .haveConn c) :
      Step d σ .sessOk { (σ.setConn c { σ.conn c with sessOpen := true, stage := .sessioned }) with phase := .haveSession c }
  | pingOk {c} (hp : σ.phase = .haveSession c) (ho : (σ.conn c).sessOpen = true) : Step d σ .pingOk { σ with phase := .pinged c }
  | pingErrDead {c k} (hp : σ.phase = .haveSession c) (hl : σ.live = false) :
      Step d σ (.pingErr k) { (σ.setConn c { (if d.exitLeaksAttempt then σ.conn c else (σ.conn c).closeBoth) with stage := .abandoned }) with
        phase := .exited, lostPermits := σ.lostPermits + 1 }
  | pingErr {c k} (hp : σ.phase = .haveSession c) (hl : σ.live = true) :
      Step d σ (.pingErr k) { (σ.setConn c { (σ.conn c).closeBoth with stage := .failed }) with phase := .idle, permits := σ.permits + 1 }
  | addDead {c} (hp : σ.phase = .pinged c) (hl : σ.live = false) :
      Step d σ .add { (σ.setConn c { (if d.lateAddLeaks then σ.conn c else (σ.conn c).closeBoth) with stage := .dropped }) with
        phase := .idle, lostPermits := σ.lostPermits + 1 }
  | add {c} (hp : σ.phase = .pinged c) (hl : σ.live = true) :
      Step d σ .add { (σ.setConn c { σ.conn c with ctxDone := false, stage := .registered σ.muxSeq }) with phase := .idle, muxSeq := σ.muxSeq + 1 }
  | peerClose {c} (hlen : c < σ.conns.length) (ho : (σ.conn c).sessOpen = true) : Step d σ (.peerClose c) (σ.setConn c (σ.conn c).closeBoth)
  | localClose {c mid} (hst : (σ.conn c).stage = .registered mid) (hlen : c < σ.conns.length) (hx : (σ.conn c).ctxDone = false) :
      Step d σ (.localClose c) (σ.setConn c { σ.conn c with ctxDone := true })
  | cleanup {c mid} (hst : (σ.conn c).stage = .registered mid) (hlen : c < σ.conns.length) (hd : (σ.conn c).dying σ.live = true) :
      Step d σ (.cleanup c) (σ.setConn c { (σ.conn c).closeBoth with ctxDone := true, stage := .cleaned mid })
  | release {c mid} (hst : (σ.conn c).stage = .cleaned mid) (hlen : c < σ.conns.length) :
      Step d σ (.release c) { (σ.setConn c { σ.conn c with stage := .released mid }) with permits := σ.permits + 1 }
  | cancel (hl : σ.live = true) : Step d σ .cancel { σ with live := false }
  | onClose (hp : σ.phase = .exited) (hl : σ.live = false) (hm : σ.mgrClosed = false) : Step d σ .onClose { σ with mgrClosed := true }

theorem Step.of_step {d : Defects} {σ σ' : St} {a : Act} (h : step d σ a = some σ') : Step d σ a σ' := by
  revert h
  -- the branches of `step` in the order of its definition; the disabled ones have `none = some σ'`
  fun_cases step d σ a <;> intro h <;> cases h
  next hp hc => exact .acquire hp hc.1 hc.2
  · exact .acquireFail ‹_› ‹_›
  · exact .connErrDead ‹_› ‹_›
  · exact .connErr ‹_› (eq_true_of_ne_false ‹_›)
  · exact .connOk ‹_›
  · exact .sessErrDead ‹_› ‹_›
  · exact .sessErr ‹_› (eq_true_of_ne_false ‹_›)
  · exact .sessOk ‹_›
  · exact .pingOk ‹_› ‹_›
  · exact .pingErrDead ‹_› ‹_›
  · exact .pingErr ‹_› (eq_true_of_ne_false ‹_›)
  · exact .addDead ‹_› ‹_›
  · exact .add ‹_› (eq_true_of_ne_false ‹_›)
  next hc => exact .peerClose hc.1 hc.2
  next hst hc => exact .localClose hst hc.1 hc.2
  next hst hc => exact .cleanup hst hc.1 hc.2
  · exact .release ‹_› ‹_›
  · exact .cancel ‹_›
  next hp hc => exact .onClose hp hc.1 hc.2

theorem Step.to_step {d : Defects} {σ σ' : St} {a : Act} (h : Step d σ a σ') : step d σ a = some σ' := by
  cases h <;> simp [step, *]

theorem Step.not_none {d : Defects} {σ σ' : St} {a : Act} (hs : Step d σ a σ') (h : step d σ a = none) : False := by
  rw [hs.to_step] at h; cases h

theorem Step.cap {d : Defects} {σ σ' : St} {a : Act} (hs : Step d σ a σ') : σ'.cap = σ.cap := by cases hs <;> rfl

theorem Step.live {d : Defects} {σ σ' : St} {a : Act} (hs : Step d σ a σ') : σ'.live = σ.live ∨ (a = .cancel ∧ σ'.live = false) := by
  cases hs <;> first | exact .inl rfl | exact .inr ⟨rfl, rfl⟩


theorem run_cons (d : Defects) (σ : St) (a : Act) (r : List Act) :
    run d σ (a :: r) = run d ((step d σ a).getD σ) r := rfl

theorem run_cons_some {d : Defects} {σ σ' : St} {a : Act} (hs : step d σ a = some σ') (r : List Act) :
    run d σ (a :: r) = run d σ' r := by
  rw [run_cons, hs]; rfl

theorem run_induct {d : Defects} {P : St → Prop} (hstep : ∀ {σ σ' a}, P σ → Step d σ a σ' → P σ')
    (acts : List Act) (σ : St) (h0 : P σ) : P (run d σ acts) :=
  foldl_getD_induct (fun _ _ _ h hs => hstep h (.of_step hs)) acts σ h0

theorem run_cap (d : Defects) (acts : List Act) (σ : St) : (run d σ acts).cap = σ.cap :=
  run_induct (P := fun τ => τ.cap = σ.cap) (fun h hs => hs.cap.trans h) acts σ rfl

end S2S.MuxPool
