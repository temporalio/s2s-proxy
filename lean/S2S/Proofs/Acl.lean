import S2S.Model.Acl
/-! C15 / C16: an empty allow-list allows everything; a request that passes every check is forwarded. -/
namespace S2S.Acl
theorem isAllowed_iff (l : List String) (x : String) : isAllowed l x = true ↔ l = [] ∨ x ∈ l := by
  simp [isAllowed]

theorem all_allowed_forward (p : Policy) (svc : Service) (name : String) (ns : List String)
    (hdeny : svc = .workflow → denyList.contains name = false)
    (hadm : svc = .admin → isAllowed p.adminMethods name = true)
    (hall : ∀ n ∈ ns, isAllowed p.namespaces n = true) :
    aclUnaryOn p svc name ns = .forward := by
  have hany : ns.any (fun n => !isAllowed p.namespaces n) = false := by
    rw [List.any_eq_false]
    intro x hx
    rw [hall x hx]; simp
  unfold aclUnaryOn
  rw [hany]
  cases svc with
  | workflow => rw [hdeny rfl]; simp
  | admin => rw [hadm rfl]; simp
  | other => simp
end S2S.Acl
