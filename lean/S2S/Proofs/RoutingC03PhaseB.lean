import S2S.Proofs.RoutingC03PhaseA
/-! Round 2, phases B/C: every target acknowledges its whole ring in turn; source `s` collects `H`.  At the end the
liveness half of C03 (`eventually_complete`). -/
namespace S2S.Routing
variable {c : Cfg}

/-- `QS`, the Source at Quiescence: the last rack either sent the current minimum, or the minimum is below what was sent
    before -/
def QS (x : Source) : Prop :=
  ∃ m, minVal x.ackByTarget = some m ∧ (x.lastSentMin ≤ m → x.acksSent.getLast? = some m)

/-- nothing for `s` is left on the forwarding list -/
def NotIn (s : SId) (apc : AckPc) : Prop := ∀ todo d r, apc = .forwarding todo d r → aget todo s = none

/-- `CS`, phase C seen from the Source: where the value `H` that target `k` aggregated for `s` is on its way back: on
    `k`'s forwarding list; forwarded, the one entry of `s`'s ack channel; consumed, i.e. `ackByTarget` of `s` holds `H`
    for every target up to `k` and the ack that `rack` owed has been sent (`QS`) -/
def CS (s : SId) (H : Int) (k : TId) (σ : State) : Prop :=
  (∃ todo d r, (σ.tgt k).ackPc = .forwarding todo d r ∧ aget todo s = some H ∧ (σ.src s).ackChan = []) ∨
  (NotIn s (σ.tgt k).ackPc ∧ (σ.src s).ackChan = [(k, H)]) ∨
  (NotIn s (σ.tgt k).ackPc ∧ (σ.src s).ackChan = [] ∧
    (∀ p ∈ (σ.src s).ackByTarget, p.1 < k + 1 → p.2 = H) ∧ QS (σ.src s))

/-- during the settle after `tack k`, the inner phase of one `PhB` step: nothing moves forward, only target `k` forwards
    acknowledgements, the targets after `k` are still `Done`, and `CS` says where `k`'s value for `s` is -/
structure PhC (nt : Nat) (s : SId) (H : Int) (k : TId) (σ : State) : Prop where
  good : Good nt σ
  hs : (σ.src s).lastHigh = H
  act : (σ.src s).active = true
  pcs : ∀ s', (σ.src s').pc = .idle
  tq : ∀ t, (σ.tgt t).sendChan = [] ∧ (σ.tgt t).holding = none ∧ (σ.tgt t).replayTodo = none
  apc : ∀ t, t ≠ k → (σ.tgt t).ackPc = .idle
  done : ∀ t, k < t → t < nt → Done s H (σ.tgt t)
  abt : ∀ p ∈ (σ.src s).ackByTarget, p.1 < k → p.2 = H
  cs : CS s H k σ

theorem tq_setTgt {σ : State} {k : TId} {y : Target} (hy : y.sendChan = [] ∧ y.holding = none ∧ y.replayTodo = none)
    (h : ∀ t, (σ.tgt t).sendChan = [] ∧ (σ.tgt t).holding = none ∧ (σ.tgt t).replayTodo = none) (t0 : TId) :
    ((σ.setTgt k y).tgt t0).sendChan = [] ∧ ((σ.setTgt k y).tgt t0).holding = none ∧
      ((σ.setTgt k y).tgt t0).replayTodo = none :=
  forall_tgt_setTgt (P := fun _ y => y.sendChan = [] ∧ y.holding = none ∧ y.replayTodo = none) hy h t0

theorem NotIn.filter {s s' : SId} {todo : List (SId × Int)} (d : Nat) (r : Bool)
    (h : s = s' ∨ aget todo s = none) : NotIn s (.forwarding (todo.filter (fun p => p.1 != s')) d r) := by
  intro _ _ _ e
  cases e
  rw [aget_filter_ne]
  split
  · rfl
  · exact h.resolve_left ‹_›

/-- `QS` of the new record is owed only if every entry of the new map is `≤ lastHigh` -/
theorem PhC.rack {nt : Nat} {s : SId} {H : Int} {k : TId} {σ : State} (hC : PhC nt s H k σ) {s' : SId} {t : TId}
    {v : Int} {rest : List (TId × Int)} {x' : Source} (hch : (σ.src s').ackChan = (t, v) :: rest)
    (h : step c σ (.rack s') = some (σ.setSrc s' x')) (hpc : x'.pc = (σ.src s').pc) (hac : x'.ackChan = rest)
    (habt : x'.ackByTarget = aset (σ.src s').ackByTarget t v)
    (hqs : (∀ p ∈ aset (σ.src s').ackByTarget t v, p.2 ≤ (σ.src s').lastHigh) → QS x') :
    PhC nt s H k (σ.setSrc s' x') := by
  obtain ⟨hG', hs', hact'⟩ := hC.good.eager_src hC.hs hC.act rfl h
  have hslt := src_lt_of_active σ hC.act
  have hpcs := fun s0 => (src_proj_setSrc Source.pc hpc s0).trans (hC.pcs s0)
  by_cases hss : s = s'
  · subst hss
    obtain ⟨hnot, hch0⟩ : NotIn s (σ.tgt k).ackPc ∧ (σ.src s).ackChan = [(k, H)] := by
      rcases hC.cs with ⟨_, _, _, _, _, hch0⟩ | h | ⟨_, hch0, _⟩
      · rw [hch0] at hch; cases hch
      · exact h
      · rw [hch0] at hch; cases hch
    cases hch0.symm.trans hch
    have hall : ∀ p ∈ x'.ackByTarget, p.1 < k + 1 → p.2 = H := by
      rw [habt]
      intro p hp hpk
      rcases mem_aset_strong (k' := p.1) (v' := p.2) (hC.good.inv2.j.srcs s).abtnd hp with ⟨hp, hpne⟩ | ⟨_, e⟩
      · exact hC.abt p hp (Nat.lt_of_le_of_ne (Nat.lt_succ_iff.1 hpk) hpne)
      · exact e
    refine { hC with good := hG', hs := hs', act := hact', pcs := hpcs, abt := ?_, cs := ?_ }
    · rw [src_setSrc_self _ hslt]; exact fun p hp hpk => hall p hp (Nat.lt_succ_of_lt hpk)
    · unfold CS
      simp only [tgt_setSrc]
      rw [src_setSrc_self _ hslt]
      exact .inr (.inr ⟨hnot, hac, hall, hqs (forall_aset (hC.good.inv2.inv.srcs s).abt (Int.le_of_eq hC.hs.symm))⟩)
  · refine { hC with good := hG', hs := hs', act := hact', pcs := hpcs, abt := ?_, cs := ?_ }
    · rw [src_setSrc_ne _ hss]; exact hC.abt
    · unfold CS
      simp only [tgt_setSrc]
      rw [src_setSrc_ne _ hss]; exact hC.cs

theorem PhC.eager {nt : Nat} {s : SId} {H : Int} {k : TId} {σ σ' : State} {a : Act} (hC : PhC nt s H k σ)
    (ha : a.isEager = true) (h : step c σ a = some σ') : PhC nt s H k σ' := by
  obtain ⟨hG', hs', hact'⟩ := hC.good.eager_src hC.hs hC.act ha h
  have hslt := src_lt_of_active σ hC.act
  -- only target `k` is forwarding and only ack channels are in use: of the eager actions, `ackFwd k`, `ackFin k`, `rack`
  cases Step.of_step h with
  | bcastSend _ _ hpc | bcastDrop _ _ hpc | deliver _ _ hpc => rw [hC.pcs] at hpc; cases hpc
  | take _ _ _ hch => rw [(hC.tq _).1] at hch; cases hch
  | emit _ he => rw [(hC.tq _).2.1] at he; cases he
  | replaySend _ _ htodo | replaySkip _ _ htodo | replayDone _ htodo => rw [(hC.tq _).2.2] at htodo; cases htodo
  | @ackFwd t' s' todo d r v hpc hv =>
    have htk : t' = k := Decidable.byContradiction fun hne => by rw [hC.apc t' hne] at hpc; cases hpc
    subst htk
    have hklt := tgt_lt_of_ackPc σ t' (hpc ▸ nofun)
    refine ⟨hG', hs', hact', fun s0 => (src_proj_setSrc Source.pc (by rfl) s0).trans (hC.pcs s0), tq_setTgt (hC.tq t') hC.tq, ?_, ?_, ?_, ?_⟩
    · intro t0 hne; rw [tgt_setSrc, tgt_setTgt_ne _ hne]; exact hC.apc t0 hne
    · intro t0 hlt hlt'
      rw [tgt_setSrc, tgt_setTgt_ne _ (Nat.ne_of_gt hlt)]; exact hC.done t0 hlt hlt'
    · rw [src_proj_setSrc Source.ackByTarget (by rfl) s]; exact hC.abt
    · unfold CS
      rw [tgt_setSrc, tgt_setTgt_self _ hklt]
      rcases hC.cs with ⟨todo0, d0, r0, hpc0, hget0, hch0⟩ | ⟨hnot, hrest⟩ | ⟨hnot, hrest⟩
      · cases hpc.symm.trans hpc0
        by_cases hss : s = s'
        · subst hss
          cases hv.symm.trans hget0
          rw [src_setSrc_self (σ := σ.setTgt _ _) _ hslt]
          exact .inr (.inl ⟨.filter d r (.inl rfl), by simp only [hch0, List.nil_append]⟩)
        · rw [src_setSrc_ne _ hss, src_setTgt]
          exact .inl ⟨_, _, _, rfl, by rw [aget_filter_ne, if_neg hss]; exact hget0, hch0⟩
      -- `s` is not on the list, so the entry forwarded is another source's
      all_goals
        have hss : s ≠ s' := fun e => by rw [← e, hnot _ _ _ hpc] at hv; cases hv
        rw [src_setSrc_ne _ hss, src_setTgt]
      · exact .inr (.inl ⟨.filter d r (.inr (hnot _ _ _ hpc)), hrest⟩)
      · exact .inr (.inr ⟨.filter d r (.inr (hnot _ _ _ hpc)), hrest⟩)
  | @ackFin t' d r hpc =>
    have htk : t' = k := Decidable.byContradiction fun hne => by rw [hC.apc t' hne] at hpc; cases hpc
    subst htk
    have hklt := tgt_lt_of_ackPc σ t' (hpc ▸ nofun)
    refine { hC with good := hG', tq := tq_setTgt (hC.tq t') hC.tq, apc := ?_, done := ?_, cs := ?_ }
    · intro t0 hne; rw [tgt_setTgt_ne _ hne]; exact hC.apc t0 hne
    · intro t0 hlt hlt'
      rw [tgt_setTgt_ne _ (Nat.ne_of_gt hlt)]; exact hC.done t0 hlt hlt'
    · have hnot' : NotIn s AckPc.idle := fun _ _ _ e => by cases e
      unfold CS
      rw [tgt_setTgt_self _ hklt]
      rcases hC.cs with ⟨todo0, d0, r0, hpc0, hget0, _⟩ | ⟨_, hch0⟩ | ⟨_, hrest⟩
      · rw [hpc] at hpc0; cases hpc0; cases hget0
      · exact Or.inr (Or.inl ⟨hnot', hch0⟩)
      · exact Or.inr (Or.inr ⟨hnot', hrest⟩)
  | @rackQuiet s' t v _ _ hch hq =>
    refine hC.rack hch h rfl rfl rfl fun _ => ?_
    cases hm : minVal (aset (σ.src s').ackByTarget t v) with
    | none => exact absurd hm (minVal_aset_ne_none _ _ _)
    | some m => exact ⟨m, hm, fun h => absurd h (Int.not_le.2 (hq m hm))⟩
  | @rackSend s' t v _ m _ hch hm =>
    refine hC.rack hch h rfl rfl rfl fun hle => ⟨m, hm, fun _ => ?_⟩
    -- the minimum is an entry of `ackByTarget`, so it is not clamped
    obtain ⟨tm, htm⟩ := minVal_mem hm
    simp [clampAck_of_le (hle _ htm)]
  | _ => cases ha

theorem PhC.settled {nt : Nat} {s : SId} {H : Int} {k : TId} {σ : State} (hC : PhC nt s H k σ) :
    PhC nt s H k (settleQ Cfg.cur σ) ∧ Idle (settleQ Cfg.cur σ) :=
  settled_idle (by decide) PhC.good PhC.eager hC

/-- between two acknowledgements of round 2, idle: the targets from `k` on are `Done`, `ackByTarget` of `s` holds `H` for
    those before `k` -/
structure PhB (nt : Nat) (s : SId) (H : Int) (k : Nat) (σ : State) : Prop where
  good : Good nt σ
  hs : (σ.src s).lastHigh = H
  act : (σ.src s).active = true
  idle : Idle σ
  done : ∀ t, k ≤ t → t < nt → Done s H (σ.tgt t)
  abt : ∀ p ∈ (σ.src s).ackByTarget, p.1 < k → p.2 = H
  q : k = 0 ∨ QS (σ.src s)

/-- `tack k` forwards the aggregate of the whole ring, which has `H` for `s` (`hget`); that state is in `PhC`; settle; at
    idle only the third alternative of `CS` is left -/
theorem PhB.ackStep {nt : Nat} {s : SId} {H : Int} {k : Nat} {σ : State} (hcap : 0 < c.chanCap) (hB : PhB nt s H k σ)
    (hk : k < nt) :
    PhB nt s H (k + 1) (ackStepQ c σ k) := by
  have hlen := hB.good.inv2.j.len
  have hklt : k < σ.targets.length := by rw [hlen]; exact hk
  obtain ⟨_, _, ⟨e, he, hnext⟩, p, hp⟩ := hB.done k (Nat.le_refl _) hk
  have hT := hB.good.inv2.j.tgts k
  have hTI := hB.good.inv2.inv.tgts k
  have hget : aget (aggregate (σ.tgt k).ring e.high).1 s = some H :=
    aggregate_aget (fun e' he' => Int.le_trans (hT.ringle e' he') hnext)
      (fun e' he' hs' => Int.le_trans (hs' ▸ hTI.ring e' he' : e'.2.2 ≤ σ.hi s) (Int.le_of_eq hB.hs)) hp
  unfold ackStepQ
  rw [he]
  simp only
  have hstep := Step.to_step (c := c) (.tack k e.high (hB.good.started k hk) (hB.idle.tgts k).2.2.1)
  have hC : PhC nt s H k ((step c σ (.tack k e.high)).getD σ) := by
    simp only [hstep, Option.getD_some]
    have hq := fun t => And.intro (hB.idle.tgts t).1 (And.intro (hB.idle.tgts t).2.1 (hB.idle.tgts t).2.2.2)
    refine ⟨hB.good.afterTack hstep, hB.hs, hB.act, fun s0 => (hB.idle.srcs s0).1, tq_setTgt (hq k) hq, ?_, ?_,
      hB.abt, ?_⟩
    · intro t0 hne; rw [tgt_setTgt_ne _ hne]; exact (hB.idle.tgts t0).2.2.1
    · intro t0 hlt hlt'
      rw [tgt_setTgt_ne _ (Nat.ne_of_gt hlt)]; exact hB.done t0 (Nat.le_of_lt hlt) hlt'
    · -- the aggregate has an entry for `s`, so it is what gets forwarded
      have hne : ¬ (aggregate (σ.tgt k).ring e.high).1.isEmpty = true := fun hemp => by
        rw [List.isEmpty_iff.1 hemp] at hget; cases hget
      exact Or.inl ⟨_, _, _, by rw [tgt_setTgt_self _ hklt]; exact if_neg hne, hget, (hB.idle.srcs s).2⟩
  obtain ⟨hC', hI'⟩ := settled_idle hcap PhC.good PhC.eager hC
  rcases hC'.cs with ⟨_, _, _, hpc, _, _⟩ | ⟨_, hch⟩ | ⟨_, _, habt, hq⟩
  · rw [(hI'.tgts k).2.2.1] at hpc; cases hpc
  · rw [(hI'.srcs s).2] at hch; cases hch
  · exact { hC' with idle := hI', abt := habt, q := .inr hq }

theorem PhB.fold {nt : Nat} {s : SId} {H : Int} {σ : State} (hcap : 0 < c.chanCap) (hB : PhB nt s H 0 σ) :
    ∀ k, k ≤ nt → PhB nt s H k ((List.range k).foldl (ackStepQ c) σ) := by
  intro k
  induction k with
  | zero => intro _; exact hB
  | succ n ih =>
    intro hle
    rw [List.range_succ, List.foldl_append]
    exact (ih (Nat.le_of_succ_le hle)).ackStep hcap hle

theorem round2 {nt : Nat} {s : SId} {H : Int} {σ : State} (hcap : 0 < c.chanCap) (hK : Keep nt s H σ) (hI : Idle σ)
    (hnt : 0 < nt) (h1 : 1 ≤ H) :
    ((roundQ c s H σ).src s).acksSent.getLast? = some H := by
  obtain ⟨σa, hstep, hA⟩ := PhA.enter hK hI hnt h1
  unfold roundQ ackEvQ
  rw [hstep]
  simp only [Option.getD_some]
  obtain ⟨hA', hI'⟩ := settled_idle hcap PhA.good (PhA.eager hcap) hA
  have hB0 : PhB nt s H 0 (settleQ c σa) :=
    ⟨hA'.good, hA'.hs, hA'.act, hI', fun t _ ht => hA'.done hI' t ht, fun p _ hp => absurd hp (Nat.not_lt_zero _), Or.inl rfl⟩
  have hlen := hA'.good.inv2.j.len
  rw [hlen]
  have hB := hB0.fold hcap nt (Nat.le_refl _)
  rcases hB.q with h0 | ⟨m, hm, hlast⟩
  · omega
  · obtain ⟨tm, htm⟩ := minVal_mem hm
    obtain rfl : m = H := hB.abt _ htm ((hB.good.inv2.j.srcs s).abtk _ htm)
    exact hlast (hB.hs ▸ (hB.good.inv2.inv.srcs s).lsm)

theorem eventually_complete {nt : Nat} {s : SId} {H : Int} {σ : State} (hcap : 0 < c.chanCap) (hK : Keep nt s H σ)
    (hnt : 0 < nt) (h1 : 1 ≤ H) : ∃ F, ∀ fuel, F ≤ fuel →
      ((fairRound c fuel s H (fairRound c fuel s H σ)).src s).acksSent.getLast? = some H := by
  obtain ⟨F1, e1⟩ := fairRound_eq c s H σ
  obtain ⟨F2, e2⟩ := fairRound_eq c s H (roundQ c s H σ)
  refine ⟨max F1 F2, fun fuel hf => ?_⟩
  rw [e1 _ (Nat.max_le.1 hf).1, e2 _ (Nat.max_le.1 hf).2]
  obtain ⟨hK1, hI1⟩ := hK.rounded hcap h1
  exact round2 hcap hK1 hI1 hnt h1

end S2S.Routing
