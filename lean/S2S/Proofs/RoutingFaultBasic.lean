import S2S.Proofs.RoutingFaultDef
/-! What the step lemmas for `InvF` share: transfer of `PairF`, `SrcF`, `TgtF` to records that agree on the fields they
    read, and the way back of an acknowledgement value, which `PairF` and `PairT` have in common (`AckVals`); read off
    it at the end, `InvF` along the acknowledgement path (`tack`, `ackFwd`, `rack`). -/
namespace S2S.Routing

section
variable {N : Int → Prop} {M : Int} {s : SId} {t : TId} {x x' : Source} {tg tg' : Target}

/-- a step on the way back: the other clauses of `PairF` do not see it -/
theorem PairF.of_vals (h : PairF N M s t x tg) (f : AckVals N (fun v => SafeN N s tg' v ∧ v ≤ M) s t x' tg')
    (hflat : flat s t x' tg' = flat s t x tg := by rfl) (lastHigh : x'.lastHigh = x.lastHigh := by rfl)
    (assigned : tg'.assigned = tg.assigned := by rfl) (ring : tg'.ring = tg.ring := by rfl)
    (graveyard : x'.graveyard = x.graveyard := by rfl) : PairF N M s t x' tg' :=
  ⟨assigned ▸ hflat ▸ h.cover, hflat ▸ h.sorted, hflat ▸ h.flat_le, ring ▸ assigned ▸ h.ring_ok, ring ▸ h.ring_le,
    f.todo, f.prev, f.chan, f.abt, f.last, f.seeded, lastHigh ▸ h.cur_lt, graveyard ▸ h.grave_low⟩

/-- nothing `PairF` reads moves -/
theorem PairF.of_flat_eq (h : PairF N M s t x tg) (hf : flat s t x' tg' = flat s t x tg)
    (lastHigh : x'.lastHigh = x.lastHigh := by rfl) (assigned : tg'.assigned = tg.assigned := by rfl)
    (ring : tg'.ring = tg.ring := by rfl) (ackPc : tg'.ackPc = tg.ackPc := by rfl)
    (prevAck : tg'.prevAck = tg.prevAck := by rfl) (ackChan : x'.ackChan = x.ackChan := by rfl)
    (ackByTarget : x'.ackByTarget = x.ackByTarget := by rfl) (lastSentAck : x'.lastSentAck = x.lastSentAck := by rfl)
    (confirmed : tg'.confirmed = tg.confirmed := by rfl) (graveyard : x'.graveyard = x.graveyard := by rfl) :
    PairF N M s t x' tg' :=
  h.of_vals (h.vals.imp (fun _ hv => ⟨hv.1.mono (fun _ hn => hn) (fun _ hc => confirmed ▸ hc), hv.2⟩) (fun _ hn => hn)
    ackPc prevAck ackChan ackByTarget lastSentAck confirmed) hf lastHigh assigned ring graveyard

theorem PairF.tgt_congr (h : PairF N M s t x tg) (sendChan : tg'.sendChan = tg.sendChan := by rfl)
    (assigned : tg'.assigned = tg.assigned := by rfl) (ring : tg'.ring = tg.ring := by rfl)
    (ackPc : tg'.ackPc = tg.ackPc := by rfl) (prevAck : tg'.prevAck = tg.prevAck := by rfl)
    (confirmed : tg'.confirmed = tg.confirmed := by rfl) : PairF N M s t x tg' :=
  h.of_flat_eq (by simp only [flat, sendChan]) rfl assigned ring ackPc prevAck rfl rfl rfl confirmed

end

/-- `recv` and `openSrc` of `s` move the ghost of `s` only -/
theorem invF_setSrc_ghost {σ : State} {γ γ' : Ghost} (hI : InvF σ γ) {s : SId} {x' : Source}
    (hsl : s < σ.sources.length) (hM : ∀ s', s' ≠ s → γ'.maxHighOf s' = γ.maxHighOf s')
    (hB : ∀ s', s' ≠ s → γ'.baseOf s' = γ.baseOf s') (hL : ∀ t, γ'.lostOf t = γ.lostOf t)
    (hs : SrcF (γ'.maxHighOf s) x') (hp : ∀ t, PairF (Need γ' s t x') (γ'.maxHighOf s) s t x' (σ.tgt t)) :
    InvF (σ.setSrc s x') γ' := by
  refine hI.setSrc' hsl (fun s' e hs => hM s' e ▸ hs) (fun s' t e hp => ?_) hs hp
  rw [hM s' e]
  exact hp.mono (fun id hn => hn.of_eq rfl (by unfold ebase; rw [hB s' e]) (hL t)) (Int.le_refl _)

theorem mem_tasksOf {msgs : List Msg} {s : SId} {ids : List Int} {id : Int}
    (hm : Msg.tasks s ids ∈ msgs) (hid : id ∈ ids) : (s, id) ∈ tasksOf msgs :=
  List.mem_flatMap.2 ⟨_, hm, List.mem_map.2 ⟨id, hid, rfl⟩⟩

theorem tasksOf_append (a b : List Msg) : tasksOf (a ++ b) = tasksOf a ++ tasksOf b := by
  simp [tasksOf, List.flatMap_append]

theorem mem_chanVals_task {s : SId} {ch : List Msg} {id : Int} (h : (id, true) ∈ chanVals s ch) :
    ∃ ids, Msg.tasks s ids ∈ ch ∧ id ∈ ids := by
  obtain ⟨m, hm, hv⟩ := List.mem_flatMap.1 h
  cases m with
  | tasks s' ids =>
    obtain ⟨rfl, hid⟩ := mem_msgVals_tasks hv
    exact ⟨ids, hm, hid⟩
  | wm s' h' =>
    simp only [msgVals] at hv
    split at hv <;> simp at hv

section
variable {N S : Int → Prop} {M : Int} {s : SId} {t : TId} {x x' : Source} {tg tg' : Target}

theorem AckVals.fwd_tgt {s0 : SId} (h : AckVals N S s t x tg) {todo : List (SId × Int)} {d : Nat} {r : Bool} {v : Int}
    (hpc : tg.ackPc = .forwarding todo d r) (hv : s = s0 → S v) :
    AckVals N S s t x { tg with ackPc := .forwarding (todo.filter (fun p => p.1 != s0)) d r,
                                prevAck := if r then aset tg.prevAck s0 v else tg.prevAck } := by
  refine { h with todo := ?_, prev := ?_ }
  · intro todo' d' r' e v' hv'
    cases e
    exact h.todo todo d r hpc v' (List.mem_filter.1 hv').1
  · intro v' hv'
    have hv' : (s, v') ∈ (if r = true then aset tg.prevAck s0 v else tg.prevAck) := hv'
    split at hv'
    · rcases mem_aset hv' with hv' | ⟨e1, e2⟩
      · exact h.prev v' hv'
      · exact e2 ▸ hv e1
    · exact h.prev v' hv'

theorem AckVals.fwd_src {t0 : TId} (h : AckVals N S s t x tg) {v : Int} (hv : t = t0 → S v) :
    AckVals N S s t { x with ackChan := x.ackChan ++ [(t0, v)] } tg := by
  refine { h with chan := fun v' hv' => ?_ }
  rcases List.mem_append.1 (show (t, v') ∈ x.ackChan ++ [(t0, v)] from hv') with hv' | hv'
  · exact h.chan v' hv'
  · simp only [List.mem_singleton, Prod.mk.injEq] at hv'
    exact hv'.2 ▸ hv hv'.1

/-- the new to-do list is `prevAck` or made of ring entries at or below the acknowledgement `w`: `hring` -/
theorem AckVals.tack {S' : Int → Prop} (h : AckVals N S s t x tg) (w : Int) (ta : List Int)
    (hS : ∀ v, S v → S' v) (hring : ∀ p v, p ≤ w → (p, s, v) ∈ tg.ring → S' v) :
    AckVals N S' s t x { tg with
      targetAcks := ta
      confirmed := tg.confirmed ++ (tg.assigned.filter (fun a => a.2.2 < w)).map (fun a => (a.1, a.2.1))
      ackPc := tackPc tg w } := by
  refine ⟨?_, fun v hv => hS v (h.prev v hv), fun v hv => hS v (h.chan v hv), fun v hv => hS v (h.abt v hv),
    fun a ha => (h.last a ha).append, h.seeded⟩
  intro todo d r e v hv
  rcases mem_tackPc_ring e hv with hv | ⟨p, hpw, hpr⟩
  · exact hS v (h.prev v hv)
  · exact hring p v hpw hpr

/-- the new `lastSentAck` (the old one, or a value at most the minimum over the new map) is safe because every task in
    `N` has its target in the map -/
theorem AckVals.rack {t0 : TId} (h : AckVals N S s t x tg) (hS : ∀ v, S v → SafeN N s tg v)
    {v0 : Int} {rest : List (TId × Int)} (hch : x.ackChan = (t0, v0) :: rest) (x' : Source)
    (hl : x'.lastSentAck = x.lastSentAck ∨
      ∃ m m', x'.lastSentAck = some m' ∧ minVal (aset x.ackByTarget t0 v0) = some m ∧ m' ≤ m)
    (h1 : x'.ackChan = rest := by rfl) (h2 : x'.ackByTarget = aset x.ackByTarget t0 v0 := by rfl) :
    AckVals N S s t x' tg := by
  have habt : ∀ v, (t, v) ∈ aset x.ackByTarget t0 v0 → S v := by
    intro v hv
    rcases mem_aset hv with hv | ⟨rfl, rfl⟩
    · exact h.abt v hv
    · exact h.chan v (hch ▸ List.mem_cons_self)
  have hseed : ∀ id, N id → (aget (aset x.ackByTarget t0 v0) t).isSome = true := by
    intro id hn
    rw [aget_aset]; split
    · rfl
    · exact h.seeded id hn
  refine ⟨h.todo, h.prev, h1 ▸ fun v hv => h.chan v (hch ▸ List.mem_cons_of_mem _ hv), h2 ▸ habt, fun a ha => ?_,
    h2 ▸ hseed⟩
  rcases hl with hl | ⟨m, m', e1, e2, e3⟩
  · exact h.last a (hl ▸ ha)
  · cases e1.symm.trans ha
    intro id hn hlt
    obtain ⟨v', hv'⟩ := Option.isSome_iff_exists.1 (hseed id hn)
    have hmem := aget_some_mem hv'
    have := minVal_le e2 _ hmem
    exact hS v' (habt v' hmem) id hn (by simp only at this; omega)

end

/-- `recv` of a batch, the part `PairF` and `PairT` share: an entry seeded into `ackByTarget` is the first id of the
    batch for `t`, and no task in `K'` lies below it — an old one (`K`) would have had `t` in the map already, a new
    one is in the batch -/
theorem seed_safe {K K' : Int → Prop} {s : SId} {t : TId} {tg : Target} {abt : List (TId × Int)}
    {tasks : List (Int × TId)} (hinc : StrictInc (tasks.map (·.1)))
    (hsplit : ∀ id, K' id → K id ∨ (id, t) ∈ tasks) (hseed : ∀ id, K id → (aget abt t).isSome = true) :
    (∀ v, (t, v) ∈ seed abt (groupByOwner tasks) → (t, v) ∈ abt ∨ (v ∈ ownedIds tasks t ∧ SafeN K' s tg v)) ∧
      ∀ id, K' id → (aget (seed abt (groupByOwner tasks)) t).isSome = true := by
  refine ⟨fun v hv => ?_, fun id hn => isSome_seed_groups _ _ _ ?_⟩
  · rcases mem_seed_groups hinc hv with hv | ⟨hnone, hvm, hmin⟩
    · exact Or.inl hv
    · refine Or.inr ⟨hvm, fun id hn hlt => ?_⟩
      rcases hsplit id hn with hn | hn
      · have := hseed id hn; rw [hnone] at this; cases this
      · have := hmin id (mem_ownedIds.2 hn); omega
  · exact (hsplit id hn).imp (hseed id) (fun h => ⟨id, h⟩)

theorem cur_base_full {γ : Ghost} {s : SId} {t : TId} {x : Source} (h : ebase γ s x = x.received.length) (id : Int) :
    ¬ Cur γ s t x id := by
  intro hn
  unfold Cur at hn
  rw [h, List.take_length] at hn
  exact hn.2 hn.1

theorem cur_inactive {γ : Ghost} {s : SId} {t : TId} {x : Source} (h : x.active = false) (id : Int) :
    ¬ Cur γ s t x id :=
  cur_base_full (by unfold ebase; rw [h]; rfl) id

theorem SrcF.of_pc {M : Int} {x x' : Source} (h : SrcF M x)
    (hwp : ∀ hh, x.lastWatermark = some hh → ∀ t, ∀ y ∈ pendVals x'.pc t, hh ≤ y.1)
    (hb : ∀ high todo, x'.pc = .bcast high todo → high ≤ x.lastHigh)
    (active : x'.active = x.active := by rfl) (lastWatermark : x'.lastWatermark = x.lastWatermark := by rfl)
    (lastHigh : x'.lastHigh = x.lastHigh := by rfl) (lastSentAck : x'.lastSentAck = x.lastSentAck := by rfl)
    (graveyard : x'.graveyard = x.graveyard := by rfl) : SrcF M x' :=
  ⟨lastWatermark ▸ lastHigh ▸ h.wm_le, lastWatermark ▸ hwp, lastHigh ▸ hb, lastHigh ▸ h.high_le, lastSentAck ▸ h.last_le,
    lastSentAck ▸ active ▸ h.last_active, graveyard ▸ h.grave_le, h.m_nonneg⟩

theorem TgtF.of_reg {tg tg' : Target} (h : TgtF tg) (hreg : tg'.registered = true)
    (assigned : tg'.assigned = tg.assigned := by rfl) (nextProxyId : tg'.nextProxyId = tg.nextProxyId := by rfl)
    (sendChan : tg'.sendChan = tg.sendChan := by rfl) (handed : tg'.handed = tg.handed := by rfl) : TgtF tg' :=
  ⟨fun e => Bool.noConfusion (hreg.symm.trans e), assigned ▸ nextProxyId ▸ h.asg_le, sendChan ▸ handed ▸ h.chan_handed,
    assigned ▸ handed ▸ h.asg_handed⟩

theorem PairF.tick {N : Int → Prop} {M : Int} {s : SId} {t : TId} {x : Source} {tg : Target}
    (h : PairF N M s t x tg) : PairF N M s t (tickSrc x) (tickTgt tg) := by
  rw [tickSrc_eq, tickTgt_eq]; exact h.of_flat_eq rfl

theorem SrcF.tick {M : Int} {x : Source} (h : SrcF M x) : SrcF M (tickSrc x) := by
  rw [tickSrc_eq]; exact h.of_pc h.wm_pend h.bcast_le

theorem TgtF.tick {tg : Target} (h : TgtF tg) : TgtF (tickTgt tg) := by
  rw [tickTgt_eq]
  exact { h with unreg := fun e => by rw [h.unreg e]; rfl }

theorem Cur.of_tick {γ : Ghost} {s : SId} {t : TId} {x : Source} {id : Int} (h : Cur γ s t (tickSrc x) id) :
    Cur γ s t x id := by
  rw [tickSrc_eq] at h; exact h

/-- a target acknowledgement `w` confirms every task with a proxy id below `w`; a ring entry at or below `w` has
    every needed task below it assigned earlier in the ring, hence confirmed now -/
theorem PairF.tack {N : Int → Prop} {M : Int} {s : SId} {t : TId} {x : Source} {tg : Target}
    (h : PairF N M s t x tg) (w : Int) (ta : List Int) :
    PairF N M s t x { tg with
      targetAcks := ta
      confirmed := tg.confirmed ++ (tg.assigned.filter (fun a => a.2.2 < w)).map (fun a => (a.1, a.2.1))
      ackPc := tackPc tg w } := by
  refine h.of_vals (h.vals.tack w ta
    (fun v hv => ⟨hv.1.append, hv.2⟩)
    (fun p v hpw hpr => ⟨fun id hr hlt => ?_, h.ring_le p v hpr⟩))
  obtain ⟨p', hp', ha⟩ := h.ring_ok p v hpr id hr hlt
  exact List.mem_append_right _ (List.mem_map.2
    ⟨(s, id, p'), List.mem_filter.2 ⟨ha, decide_eq_true (Int.lt_of_lt_of_le hp' hpw)⟩, rfl⟩)

-- `σ.src s` stays folded (see `step_invF`); `State.tgt` cannot: the second write reads `(σ.setSrc ..).tgt t` as `σ.tgt t`
attribute [local irreducible] State.src in
/-- the value forwarded is safe because it is on the to-do list; the source is written first and the target second, so
    that each write asks the same of every pair it touches (`InvF` holds in between) -/
theorem invF_ackFwd {c : Cfg} {σ σ' : State} {γ : Ghost} (hI : InvF σ γ) {t : TId} {s : SId}
    (st : Step c σ (.ackFwd t s) σ') : InvF σ' γ := by
  cases st with | @ackFwd _ _ todo d r v hpc hv hact =>
  have hreg := (hI.tgt t).registered_of_apply_ne Target.ackPc (hpc ▸ nofun)
  have hI₁ : InvF (σ.setSrc s { σ.src s with ackChan := (σ.src s).ackChan ++ [(t, v)] }) γ :=
    hI.setSrc ((hI.src s).of_pc (hI.src s).wm_pend (hI.src s).bcast_le) fun t' => (hI.pair s t').of_vals
      ((hI.pair s t').vals.fwd_src fun e => e ▸ (hI.pair s t).todo_safe todo d r hpc v (aget_some_mem hv))
  exact hI₁.setTgt ((hI.tgt t).of_reg hreg) fun s' => (hI₁.pair s' t).of_vals
    ((hI₁.pair s' t).vals.fwd_tgt hpc fun e => e ▸ (hI₁.pair s t).todo_safe todo d r hpc v (aget_some_mem hv))

/-- `rackSend`: the acknowledgement sent is at most the minimum over the new map, hence at most the routed value `v0` -/
theorem SrcF.rack {M : Int} {x : Source} (hS : SrcF M x) {t0 : TId} {v0 m m' : Int} (hv0 : v0 ≤ M)
    (hact : x.active = true) (hm : minVal (aset x.ackByTarget t0 v0) = some m) (hle : m' ≤ m)
    {rest : List (TId × Int)} {lsm' : Int} {acks' : List Int} :
    SrcF M { x with
      ackChan := rest
      ackByTarget := aset x.ackByTarget t0 v0
      lastSentMin := lsm'
      lastSentAck := some m'
      acksSent := acks' } := by
  refine { hS with last_le := fun a ha => ?_, last_active := fun _ _ => hact }
  cases ha
  have := minVal_le hm _ (mem_aset_self x.ackByTarget t0 v0)
  simp only at this; omega

end S2S.Routing
