/-! An insert-or-max map entry as a fold: the running maximum of the values inserted under one key is `List.max?`
    (shared by the physical ring's `aggInsert` and the routing model's). -/
namespace S2S.Ring

def omax (o : Option Int) (v : Int) : Int :=
  match o with
  | none => v
  | some v' => max v' v

/-- the insert-or-max of the two models is written `if v > v' then v else v'` -/
theorem omax_some (a v : Int) : omax (some a) v = if v > a then v else a := by
  show max a v = _
  split
  · next h => exact Int.max_eq_right (Int.le_of_lt h)
  · next h => exact Int.max_eq_left (Int.not_lt.1 h)

theorem foldl_omax_none (l : List Int) :
    l.foldl (fun o v => some (omax o v)) none = l.max? := by
  cases l with
  | nil => rfl
  | cons a l => rw [List.foldl_cons, List.max?_cons']; exact List.foldl_hom some fun _ _ => rfl

theorem foldl_look_omax {σ α : Type} (look : σ → Option Int) (f : σ → α → σ) (p : α → Bool) (val : α → Int)
    (h : ∀ acc e, look (f acc e) = if p e = true then some (omax (look acc) (val e)) else look acc)
    (l : List α) (acc : σ) :
    look (l.foldl f acc) = ((l.filter p).map val).foldl (fun o v => some (omax o v)) (look acc) := by
  induction l generalizing acc with
  | nil => rfl
  | cons e es ih => rw [List.foldl_cons, ih, h, List.filter_cons]; split <;> rfl

end S2S.Ring
