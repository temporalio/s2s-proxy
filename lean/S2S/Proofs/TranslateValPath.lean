import S2S.Spec.TranslateValPath
import S2S.Proofs.TranslateValId
/-! C12 (value level): the string at the end of a realised structural path that the PATH model says is translated is,
    in the translated tree, the translation of the original.  By induction on the steps: one step commutes with the walk
    (the walk is position-wise, and a pick is followed into what the walk made of the field); `pathOK` and `walk` say that
    the code does not skip the node the path is at.
    The leaf notions, in the order they are used: the oracle's `isNsLeaf` gives `leafTranslated` under `Covers`
    (TranslatePaths), which under `tablesDisjoint` gives `nsLeafOf g tb (ty == namespaceInfo) f`, which is when `nsStrStep`
    at `Ctx.leaf` applies the matcher. -/
namespace S2S.TranslateVal
open S2S.Translate S2S.NameMap
variable {α : Type} [DecidableEq α] {g : Graph} {tb : Tables} {X : Ext α} {mt : α → α × Bool}

theorem fields_get (mode : FMode) (fds : List FieldD) (fs : List (Val α)) (idx : Nat) (f : FieldD) (v : Val α)
    (hf : fds[idx]? = some f) (hv : fs[idx]? = some v) :
    (visitNsFields g tb X mt mode fds fs).1[idx]? = some (nsStep g tb X mt (.field mode f) v).1 := by
  induction fds generalizing fs idx with
  | nil => cases hf
  | cons f0 fds ih =>
    cases fs with
    | nil => cases hv
    | cons v0 vs =>
      rw [visitNsFields_cons]
      cases idx with
      | zero => cases hf; cases hv; rfl
      | succ n => exact ih vs n hf hv

theorem items_get (mode : IMode) (l : List (Val α)) (i : Nat) (v : Val α) (h : l[i]? = some v) :
    (visitNsItems g tb X mt mode l).1[i]? = some (nsStep g tb X mt (.item mode) v).1 := by
  rw [visitNsItems_fst, List.getElem?_map, h]; rfl

theorem listSkippable_false_of_mem (evs : List (Val α)) (j : Nat) (ev : Val α) (hj : evs[j]? = some ev)
    (hev : evSkippable g tb X ev = false) : listSkippable g tb X evs = false :=
  List.all_eq_false.2 ⟨ev, List.mem_of_getElem? hj, ne_true_of_eq_false hev⟩

theorem walk_field {ty idx next : Nat} {rest : List Step} {inEv : Bool}
    (hw : walk g tb (.field ty idx next :: rest) inEv = true) :
    ∃ f, g.field? ty idx = some f ∧
      (inEv && ty == g.eventType && f.go == g.attributesField && entersSkippable tb rest) = false ∧
      walk g tb rest (ty == g.historyType && next == g.eventType) = true := by
  simp only [walk] at hw
  cases hf : g.field? ty idx with
  | none => rw [hf] at hw; cases hw
  | some f =>
    rw [hf] at hw
    simp only at hw
    split at hw
    · cases hw
    · split at hw
      · cases hw
      · exact ⟨f, rfl, Bool.eq_false_iff.2 ‹_›, hw⟩

theorem walk_blob {ty idx : Nat} {rest : List Step} {inEv : Bool} (hw : walk g tb (.blob ty idx :: rest) inEv = true) :
    ∃ f, g.field? ty idx = some f ∧ blobCtx tb (some f) = true ∧ walk g tb rest true = true := by
  simp only [walk] at hw
  cases hf : g.field? ty idx with
  | none => rw [hf] at hw; cases hw
  | some f =>
    rw [hf] at hw
    simp only at hw
    split at hw
    · rename_i hb
      exact ⟨f, rfl, (Bool.and_comm ..).trans hb, hw⟩
    · cases hw

theorem not_blocked (rest : List Step) (hw : walk g tb rest true = true) : blockedAt g tb rest = false := by
  match rest, hw with
  | [], _ | .blob _ _ :: _, _ => rfl
  | .field ty' idx nx :: rest', hw =>
    obtain ⟨f, hf, hb, _⟩ := walk_field hw
    simp only [blockedAt, hf]
    exact hb

theorem pathOK_node (v : Val α) (rest : List Step) (ps : List Pick) (inEv : Bool)
    (hok : pathOK g tb X v rest ps inEv = true) : nodeOK g tb X v inEv rest = true :=
  match rest, ps, hok with
  | [], _, h => h
  | _ :: _, _ :: _, h => (Bool.and_eq_true_iff.1 h).1

theorem not_skipped (v : Val α) (rest : List Step) (ps : List Pick)
    (hw : walk g tb rest true = true) (hok : pathOK g tb X v rest ps true = true) : evSkippable g tb X v = false := by
  have hn := pathOK_node v rest ps true hok
  have hb := not_blocked rest hw
  cases v with
  | msg ty fs =>
    simp only [nodeOK, hb, Bool.or_false, Bool.true_and, Bool.and_eq_true, Bool.not_eq_true'] at hn
    exact hn.2
  | _ => rfl

omit [DecidableEq α] in
theorem asMsgOf_some (n : Nat) (v v' : Val α) (h : asMsgOf n v = some v') : v' = v ∧ ∃ cfs, v = .msg n cfs := by
  revert h
  fun_cases asMsgOf n v <;> intro h <;> cases h
  exact ⟨rfl, _, rfl⟩

theorem asMsgOf_nsStep {c : Ctx} {n : Nat} {cfs : List (Val α)} (h : c.skips g tb X (.msg n cfs) = false) :
    asMsgOf n (nsStep g tb X mt c (.msg n cfs)).1 = some (nsStep g tb X mt c (.msg n cfs)).1 := by
  rw [nsStep_msg h]
  simp [asMsgOf]

theorem pickChild_nsStep {c : Ctx} {fv : Val α} (hs : c.skips g tb X fv = false) (i n : Nat) (cfs : List (Val α))
    (hev : c.listMode tb = .events → evSkippable g tb X (.msg n cfs) = false)
    (hp : pickChild fv i = some (.msg n cfs)) :
    ∃ c' : Ctx, c'.skips g tb X (.msg n cfs) = false ∧
      pickChild (nsStep g tb X mt c fv).1 i = some (nsStep g tb X mt c' (.msg n cfs)).1 := by
  cases fv with
  | msg ty fs =>
    cases hp
    exact ⟨c, hs, by rw [nsStep_msg hs]; rfl⟩
  | list items =>
    refine ⟨.item (c.listMode tb), ?_, ?_⟩
    · cases hm : c.listMode tb with
      | events => exact hev hm
      | _ => rfl
    · rw [nsStep_list hs]
      exact items_get _ items i _ hp
  | map es =>
    refine ⟨.item .plain, rfl, ?_⟩
    rw [nsStep_map hs]
    simp only [pickChild] at hp ⊢
    split at hp <;> cases hp
    rename_i he
    rw [items_get .plain es i _ he, nsStep_kv rfl]
  | _ => cases hp

theorem pickEvents_nsStep (mode : FMode) (hm : mode ≠ .hist) (f : FieldD) (hb : blobCtx tb (some f) = true) (fv : Val α)
    (i : Nat) (evs : List (Val α)) (hp : pickEvents fv i = some evs) (hs : listSkippable g tb X evs = false) :
    pickEvents (nsStep g tb X mt (.field mode f) fv).1 i = some (visitNsItems g tb X mt .plain evs).1 := by
  obtain ⟨hk, ho, hl⟩ := field_of_ne_hist g tb X hm f
  rw [hb] at ho hl
  cases fv with
  | blobEv re evs0 =>
    cases hp
    obtain ⟨re', e⟩ := nsStep_blobEv_fst (mt := mt) (re := re) ho hs
    rw [e]; rfl
  | list items =>
    rw [nsStep_list (hk (.list items)), hl]
    simp only [pickEvents, if_true] at hp ⊢
    split at hp <;> cases hp
    rename_i re he
    obtain ⟨re', e⟩ := nsStep_blobEv_fst (mt := mt) (c := .item .blobs) (re := re) rfl hs
    rw [items_get .blobs items i _ he, e]
  | _ => cases hp

omit [DecidableEq α] in
theorem stepInto_field {ty : Nat} {fs : List (Val α)} {ty0 idx next : Nat} {p : Pick} {ch : Val α}
    (h : stepInto g (.msg ty fs) (.field ty0 idx next) p = some ch) :
    ty = ty0 ∧ ∃ fv cfs, fs[idx]? = some fv ∧ pickChild fv p.i = some (.msg next cfs) ∧ ch = .msg next cfs := by
  simp only [stepInto, Option.ite_none_right_eq_some, Option.bind_eq_some_iff] at h
  obtain ⟨hty, v0, ⟨fv, hfv, hpc⟩, hc⟩ := h
  obtain ⟨rfl, cfs, rfl⟩ := asMsgOf_some next v0 ch hc
  exact ⟨hty, fv, cfs, hfv, hpc, rfl⟩

omit [DecidableEq α] in
theorem stepInto_blob {ty : Nat} {fs : List (Val α)} {ty0 idx : Nat} {p : Pick} {ch : Val α}
    (h : stepInto g (.msg ty fs) (.blob ty0 idx) p = some ch) :
    ty = ty0 ∧ ∃ fv evs cfs, fs[idx]? = some fv ∧ pickEvents fv p.i = some evs ∧
      evs[p.j]? = some (.msg g.eventType cfs) ∧ ch = .msg g.eventType cfs := by
  simp only [stepInto, Option.ite_none_right_eq_some, Option.bind_eq_some_iff] at h
  obtain ⟨hty, v0, ⟨evs, ⟨fv, hfv, hpe⟩, hev⟩, hc⟩ := h
  obtain ⟨rfl, cfs, rfl⟩ := asMsgOf_some g.eventType v0 ch hc
  exact ⟨hty, fv, evs, cfs, hfv, hpe, hev, rfl⟩

theorem stepInto_nsStep {c : Ctx} (ty : Nat) (fs : List (Val α)) (hk : c.skips g tb X (.msg ty fs) = false)
    (s : Step) (rest : List Step) (p : Pick) (inEv : Bool) (ch : Val α)
    (hs : stepInto g (.msg ty fs) s p = some ch)
    (hw : walk g tb (s :: rest) inEv = true)
    (hn : nodeOK g tb X (.msg ty fs) inEv (s :: rest) = true)
    (hc : inEvAfter g s = true → evSkippable g tb X ch = false) :
    ∃ c' : Ctx, c'.skips g tb X ch = false ∧
      stepInto g (nsStep g tb X mt c (.msg ty fs)).1 s p = some (nsStep g tb X mt c' ch).1 := by
  rw [nsStep_msg hk]
  simp only [nodeOK, Bool.and_eq_true, Bool.or_eq_true, bne_iff_ne, ne_eq] at hn
  cases s with
  | field ty0 idx next =>
    obtain ⟨rfl, fv, cfs, hfv, hpc, rfl⟩ := stepInto_field hs
    obtain ⟨f, hf, -, -⟩ := walk_field hw
    -- in a `History` the path leaves through `Events` into an event, which the shortcut does not skip
    have hm : (Ctx.field (nsMode g ty) f).skips g tb X fv = false ∧
        ((Ctx.field (nsMode g ty) f).listMode tb = .events → evSkippable g tb X (.msg next cfs) = false) := by
      by_cases h1 : ty = g.historyType
      · have hh := hn.1.resolve_left (not_not_intro h1)
        simp only [histOK, hf, hfv, Bool.and_eq_true] at hh
        obtain ⟨⟨hgo, hnx⟩, hlist⟩ := hh
        refine ⟨?_, fun _ => hc (Bool.and_eq_true_iff.2 ⟨beq_iff_eq.2 h1, hnx⟩)⟩
        cases fv with
        | list items => simp [nsMode, h1, Ctx.skips, Ctx.skipsList, hgo]
        | _ => cases hlist
      · obtain ⟨hk, -, hl⟩ := field_of_ne_hist g tb X (fun hm => h1 (nsMode_hist hm)) f
        exact ⟨hk fv, fun he => by rw [hl] at he; split at he <;> cases he⟩
    obtain ⟨c', hk', e⟩ := pickChild_nsStep hm.1 p.i next cfs hm.2 hpc
    refine ⟨c', hk', ?_⟩
    simp only [stepInto, if_true, fields_get _ _ fs idx f fv hf hfv, Option.bind_some]
    rw [e]
    exact asMsgOf_nsStep hk'
  | blob ty0 idx =>
    obtain ⟨rfl, fv, evs, cfs, hfv, hpe, hev, rfl⟩ := stepInto_blob hs
    obtain ⟨f, hf, hbc, -⟩ := walk_blob hw
    have hmode : nsMode g ty ≠ .hist := fun hm => hn.1.resolve_right Bool.false_ne_true (nsMode_hist hm)
    have hls := listSkippable_false_of_mem evs p.j _ hev (hc rfl)
    refine ⟨.item .plain, rfl, ?_⟩
    simp only [stepInto, if_true, fields_get _ _ fs idx f fv hf hfv, pickEvents_nsStep _ hmode f hbc fv p.i evs hpe hls,
      items_get .plain evs p.j _ hev, Option.bind_some]
    exact asMsgOf_nsStep rfl

theorem walk_tail (s : Step) (rest : List Step) (inEv : Bool) (hw : walk g tb (s :: rest) inEv = true) :
    walk g tb rest (inEvAfter g s) = true := by
  cases s with
  | field ty idx next => let ⟨_, _, _, h⟩ := walk_field hw; exact h
  | blob ty idx => let ⟨_, _, _, h⟩ := walk_blob hw; exact h

theorem nsLeafOf_of_leafTranslated (hdis : tablesDisjoint tb = true) {lt li : Nat}
    (hleaf : leafTranslated g tb lt li = true) :
    ∃ f, g.field? lt li = some f ∧ nsLeafOf g tb (lt == g.namespaceInfo) f = true := by
  unfold leafTranslated at hleaf
  split at hleaf
  · cases hleaf
  · rename_i f hf
    refine ⟨f, hf, ?_⟩
    simp only [Bool.or_eq_true, Bool.and_eq_true] at hleaf
    unfold nsLeafOf isNsLeafField
    rcases hleaf with ⟨⟨ht, hgo⟩, hgs⟩ | ⟨hgs, hns⟩
    · rw [ht, hgo, hgs]; rfl
    · rw [hgs, hns, List.all_eq_true.1 hdis f.go (List.contains_iff_mem.1 hns)]; simp

omit [DecidableEq α] in
theorem leafAt_nil {lt li : Nat} {v : Val α} {picks : List Pick} {s : α} (h : leafAt g lt li v [] picks = some s) :
    ∃ fs, v = .msg lt fs ∧ fs[li]? = some (.str s) := by
  cases v with
  | msg ty fs =>
    simp only [leafAt, Option.ite_none_right_eq_some] at h
    obtain ⟨rfl, h⟩ := h
    split at h <;> cases h
    exact ⟨fs, rfl, ‹_›⟩
  | _ => cases h

theorem leaf_translated (hN : NameOnce g tb) (hdis : tablesDisjoint tb = true) (lt li : Nat)
    (hleaf : leafTranslated g tb lt li = true) (steps : List Step) (v : Val α) (picks : List Pick) (c : Ctx) (inEv : Bool)
    (s : α) (hk : c.skips g tb X v = false) (hl : leafAt g lt li v steps picks = some s)
    (hw : walk g tb steps inEv = true) (hok : pathOK g tb X v steps picks inEv = true) :
    leafAt g lt li (nsStep g tb X mt c v).1 steps picks = some (app mt s).1 := by
  obtain ⟨f, hf, hlf⟩ := nsLeafOf_of_leafTranslated hdis hleaf
  induction steps generalizing v picks c inEv with
  | nil =>
    obtain ⟨fs, rfl, hfs⟩ := leafAt_nil hl
    simp only [pathOK, nodeOK, Bool.and_eq_true, Bool.or_eq_true, bne_iff_ne, ne_eq] at hok
    -- the struct is no `History` (a path cannot end there), so it is walked field by field
    have h1 : lt ≠ g.historyType := hok.1.resolve_right Bool.false_ne_true
    rw [nsStep_msg hk]
    simp only [leafAt, if_true]
    rw [fields_get _ _ fs li f _ hf hfs, nsStep_str_field h1, nsStrStep_eq hN, if_pos hlf]
  | cons st rest ih =>
    cases picks with
    | nil => cases hl
    | cons p ps =>
      simp only [leafAt, Option.bind_eq_some_iff] at hl
      obtain ⟨ch, hst, hl⟩ := hl
      simp only [pathOK, hst, Bool.and_eq_true] at hok
      have hwt := walk_tail st rest inEv hw
      have hc : inEvAfter g st = true → evSkippable g tb X ch = false :=
        fun hin => not_skipped ch rest ps (hin ▸ hwt) (hin ▸ hok.2)
      cases v with
      | msg ty fs =>
        obtain ⟨c', hk', e⟩ := stepInto_nsStep ty fs hk st rest p inEv ch hst hw hok.1 hc
        simp only [leafAt]
        rw [e]
        exact ih ch ps c' (inEvAfter g st) hk' hl hwt hok.2
      | _ => cases hst
end S2S.TranslateVal
