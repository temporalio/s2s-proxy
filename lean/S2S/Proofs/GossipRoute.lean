import S2S.Model.Gossip
/-! C09 routing and reconcile: owner lookup, the decision tables of `deliverMsg`/`deliverAck` by cases, and what
`ReconcilePeerStreams` desires and keeps. -/
namespace S2S.Gossip

theorem mem_shardOwners {x : Node} {self k : NodeId} {s : ShardId} (h : k ∈ shardOwners x self s) :
    k ≠ self ∧ ∃ tbl, (k, tbl) ∈ x.remote ∧ (aget tbl s).isSome := by
  unfold shardOwners at h
  obtain ⟨e, he, rfl⟩ := List.mem_map.1 h
  obtain ⟨hm, hp⟩ := List.mem_filter.1 he
  simp only [Bool.and_eq_true, Bool.not_eq_true', beq_eq_false_iff_ne, ne_eq] at hp
  exact ⟨hp.1, e.2, hm, hp.2⟩

theorem localAttempt_cases (i : RouteIn) :
    localAttempt i = none ∨ localAttempt i = some .atLocal ∨ localAttempt i = some .undelivered := by
  fun_cases localAttempt i
  · exact .inr (.inl rfl)
  · exact .inr (.inr rfl)
  · exact .inl rfl
  · exact .inl rfl

theorem localAttempt_none {i : RouteIn}
    (h : i.localChan = none ∨ (i.localChan ≠ some .sent ∧ i.isShutdown = false)) : localAttempt i = none := by
  fun_cases localAttempt i <;> simp_all

theorem deliverMsg_cases (i : RouteIn) :
    deliverMsg i = .atLocal ∨ deliverMsg i = .atRemote ∨ deliverMsg i = .undelivered := by
  fun_cases deliverMsg i
  next o h =>
    rcases localAttempt_cases i with e | e | e <;> rw [e] at h <;> cases h
    · exact .inl rfl
    · exact .inr (.inr rfl)
  · exact .inr (.inl rfl)
  · exact .inr (.inr rfl)
  · exact .inr (.inr rfl)

theorem deliverAck_cases (i : RouteIn) :
    deliverAck i = .atLocal ∨ deliverAck i = .atRemote ∨ deliverAck i = .undelivered ∨
    (i.memberlist = true ∧ i.mgrPresent = false) := by
  -- the branches of `deliverAck` in the order of its definition
  fun_cases deliverAck i
  next o h =>
    rcases localAttempt_cases i with e | e | e <;> rw [e] at h <;> cases h
    · exact .inl rfl
    · exact .inr (.inr (.inl rfl))
  · exact .inr (.inr (.inl rfl))
  next _ _ hm hg _ =>
    simp only [Bool.and_eq_true, Bool.not_eq_true'] at hm hg
    exact .inr (.inr (.inr ⟨hm.1.1.1, hg⟩))
  · exact .inr (.inl rfl)
  · exact .inr (.inr (.inl rfl))
  · exact .inr (.inr (.inl rfl))

theorem mem_crossPairs {locals : List CShard} {remote : List (NodeId × List CShard)} {p : NodeId × CShard × CShard} :
    p ∈ crossPairs locals remote ↔ p.2.1 ∈ locals ∧ (∃ e ∈ remote, e.1 = p.1 ∧ p.2.2 ∈ e.2) ∧ p.2.1.cluster ≠ p.2.2.cluster := by
  unfold crossPairs
  simp only [List.mem_flatMap, List.mem_map, List.mem_filter]
  constructor
  · rintro ⟨l, hl, e, he, r, ⟨hr, hc⟩, rfl⟩
    refine ⟨hl, ⟨e, he, rfl, hr⟩, ?_⟩
    simpa using hc
  · rintro ⟨hl, ⟨e, he, he1, hr⟩, hc⟩
    refine ⟨p.2.1, hl, e, he, p.2.2, ⟨hr, by simpa using hc⟩, ?_⟩
    rw [he1]

theorem mem_prune {dR dS receivers senders : List PKey} {k : PKey} :
    (k ∈ (prune dR dS receivers senders).1 ↔ k ∈ receivers ∧ k ∈ dR ∧ (k ∈ senders → k ∈ dS)) ∧
    (k ∈ (prune dR dS receivers senders).2 ↔ k ∈ senders ∧ k ∈ dS ∧ (k ∈ receivers → k ∈ dR)) := by
  simp only [prune, List.mem_filter, Bool.not_eq_true', List.contains_eq_mem, decide_eq_false_iff_not,
    not_and, Classical.not_not]
  grind

/-- a desired receiver survives unless a stale sender happens to carry the same key -/
theorem prune_keeps_receiver (dR dS receivers senders : List PKey) (k : PKey)
    (hr : k ∈ receivers) (hd : k ∈ dR) (hs : k ∉ senders) : k ∈ (prune dR dS receivers senders).1 :=
  mem_prune.1.2 ⟨hr, hd, fun h => absurd h hs⟩

end S2S.Gossip
