import S2S.Proofs.TranslateValCtx
/-! C13 / C16 (value level): what a second walk (translating back, the access check) needs of the skip shortcut — an
    event / a blob that translation walks (so: one the shortcut did NOT skip) is not skipped afterwards either.  This
    holds as soon as the matcher never turns a non-empty name into the empty name (`NoNewEmpty`); it may turn the empty
    name into a non-empty one. -/
set_option linter.unusedSectionVars false
namespace S2S.TranslateVal
open S2S.Translate S2S.NameMap
variable {α : Type} [DecidableEq α] {g : Graph} {tb : Tables} {X : Ext α} {mt : α → α × Bool}

variable (X) in
theorem shaped_evAttr (t : α) : X.shaped.evAttr (some t) = X.evAttr t := rfl

variable (mt) in
/-- the matcher sends the empty name, and no other, to the empty name -/
def KeepsEmpty (e : α) : Prop := ∀ s, ((app mt s).1 = e ↔ s = e)

variable (g tb X mt) in
/-- translation does not make the skip shortcut skip something it walked -/
structure SkipStable : Prop where
  ev : ∀ (v : Val α) (fc : Option FieldD), evSkippable g tb X v = false → evSkippable g tb X (visitNs g tb X mt fc v).1 = false
  evs : ∀ (l : List (Val α)), listSkippable g tb X l = false → listSkippable g tb X (visitNsItems g tb X mt .plain l).1 = false

variable (mt) in
/-- the matcher never produces the empty name from a non-empty one -/
def NoNewEmpty (e : α) : Prop := ∀ s, (app mt s).1 = e → s = e

def Val.isMsg : Val α → Bool
  | .msg _ _ => true
  | _ => false

def Val.tokOf : Val α → Option α
  | .tok t => some t
  | _ => none

/-- the callback keeps what `sub` and `evSkipTy` look at first: being a struct, being this token -/
theorem nsStep_head (c : Ctx) (v : Val α) :
    (nsStep g tb X mt c v).1.isMsg = v.isMsg ∧ (nsStep g tb X mt c v).1.tokOf = v.tokOf := by
  unfold nsStep
  cases c.skips g tb X v
  · cases v with
    | str s => cases c.leaf <;> exact ⟨rfl, rfl⟩
    | blobEv re evs =>
      dsimp only [nsBlobStep]
      cases c.opens tb
      · exact ⟨rfl, rfl⟩
      · rcases blobResult_cases re evs (listSkippable g tb X evs) (visitNsItems g tb X mt .plain evs) with ⟨h, _⟩ | ⟨h, _⟩ <;>
          rw [h] <;> exact ⟨rfl, rfl⟩
    | _ => exact ⟨rfl, rfl⟩
  · exact ⟨rfl, rfl⟩

theorem fieldVal_visit (mode : FMode) (name : Nat) (fds : List FieldD) (fs : List (Val α)) :
    (fieldVal name fds fs = none ∧ fieldVal name fds (visitNsFields g tb X mt mode fds fs).1 = none) ∨
    ∃ f w, fieldVal name fds fs = some w ∧
      fieldVal name fds (visitNsFields g tb X mt mode fds fs).1 = some (nsStep g tb X mt (.field mode f) w).1 := by
  fun_induction fieldVal name fds fs with
  | case1 f fds v vs h => rw [visitNsFields_cons, fieldVal_cons, if_pos h]; exact .inr ⟨f, v, rfl, rfl⟩
  | case2 f fds v vs h ih => rw [visitNsFields_cons, fieldVal_cons, if_neg h]; exact ih
  | case3 fds fs hne =>
    refine .inl ⟨rfl, ?_⟩
    cases fds <;> cases fs <;> first | rfl | exact (hne _ _ _ _ rfl rfl).elim

omit [DecidableEq α] in
theorem sub_nonmsg (name : Nat) (v : Val α) (h : v.isMsg = false) : sub g name v = none := by
  cases v <;> first | rfl | cases h

theorem sub_nsStep {c : Ctx} {v : Val α} (h : c.skips g tb X v = false) (name : Nat) :
    (sub g name v = none ∧ sub g name (nsStep g tb X mt c v).1 = none) ∨
    ∃ (c' : Ctx) (w : Val α), sub g name v = some w ∧ sub g name (nsStep g tb X mt c v).1 = some (nsStep g tb X mt c' w).1 := by
  cases v with
  | msg ty fs =>
    rw [nsStep_msg h]
    exact (fieldVal_visit (nsMode g ty) name (g.typeD ty).fields fs).imp id fun ⟨f, w, h1, h2⟩ => ⟨_, w, h1, h2⟩
  | _ => exact Or.inl ⟨rfl, sub_nonmsg _ _ ((nsStep_head c _).1.trans rfl)⟩

omit [DecidableEq α] in
theorem evSkipTy_eq (v : Val α) :
    evSkipTy g tb X v = match (sub g X.eventTypeField v).bind Val.tokOf with
      | some t => (match X.evAttr t with | some a => tb.skipAttr.contains a | none => false)
      | none => false := by
  unfold evSkipTy
  cases h : sub g X.eventTypeField v with
  | none => rfl
  | some w => cases w <;> rfl

theorem evSkipTy_nsStep (c : Ctx) (v : Val α) : evSkipTy g tb X (nsStep g tb X mt c v).1 = evSkipTy g tb X v := by
  cases hs : c.skips g tb X v with
  | true => rw [nsStep_skips hs]
  | false =>
    rw [evSkipTy_eq, evSkipTy_eq]
    rcases sub_nsStep hs X.eventTypeField with ⟨e1, e2⟩ | ⟨c', w, e1, e2⟩ <;> rw [e1, e2]
    simp only [Option.bind_some]
    rw [(nsStep_head c' w).2]

variable (g) in
/-- a chain of field look-ups, like the one that ends in a link's namespace -/
def getPath : List Nat → Val α → Option (Val α)
  | [], v => some v
  | n :: ns, v => (sub g n v).bind (getPath ns)

omit [DecidableEq α] in
theorem app_nonempty (hD : NoNewEmpty mt X.empty) (s : α) (h : s ≠ X.empty) : (app mt s).1 ≠ X.empty :=
  fun h' => h (hD s h')

omit [DecidableEq α] in
theorem nsStrStep_nonempty (hD : NoNewEmpty mt X.empty) (ni : Bool) (f : FieldD) (s : α) (h : s ≠ X.empty) :
    (nsStrStep g tb mt ni f s).1 ≠ X.empty := by
  rcases nsStrStep_cases g tb mt ni f s with ⟨_, e⟩ | ⟨_, e⟩ | ⟨_, _, _, e⟩ <;> rw [e]
  · exact h
  · exact app_nonempty hD s h
  · exact app_nonempty hD _ (app_nonempty hD s h)

theorem getPath_nsStep (hD : NoNewEmpty mt X.empty) (ns : List Nat) (v : Val α) (c : Ctx) (s : α)
    (h : getPath g ns v = some (.str s)) (hs : s ≠ X.empty) :
    ∃ s', getPath g ns (nsStep g tb X mt c v).1 = some (.str s') ∧ s' ≠ X.empty := by
  induction ns generalizing v c with
  | nil =>
    cases h
    rw [nsStep_str]
    cases c.leaf with
    | none => exact ⟨s, rfl, hs⟩
    | some p => exact ⟨_, rfl, nsStrStep_nonempty hD p.1 p.2 s hs⟩
  | cons n ns ih =>
    cases hk : c.skips g tb X v with
    | true => rw [nsStep_skips hk]; exact ⟨s, h, hs⟩
    | false =>
      simp only [getPath] at h ⊢
      rcases sub_nsStep hk n with ⟨e1, e2⟩ | ⟨c', w, e1, e2⟩ <;> rw [e1] at h <;> rw [e2]
      · cases h
      · exact ih w c' h

theorem linkHasNs_iff (l : Val α) :
    linkHasNs g X l = true ↔
      ∃ s, getPath g [X.variantField, X.workflowEventField, X.namespaceField] l = some (.str s) ∧ s ≠ X.empty := by
  simp only [linkHasNs, getPath, ← Option.bind_assoc, Option.bind_fun_some]
  split <;> simp_all

theorem linkHasNs_nsStep (hD : NoNewEmpty mt X.empty) (c : Ctx) (l : Val α) (h : linkHasNs g X l = true) :
    linkHasNs g X (nsStep g tb X mt c l).1 = true := by
  rw [linkHasNs_iff] at h ⊢
  obtain ⟨s, h1, h2⟩ := h
  exact getPath_nsStep hD _ l c s h1 h2

theorem any_linkHasNs_items (hD : NoNewEmpty mt X.empty) (mode : IMode) (links : List (Val α))
    (h : links.any (linkHasNs g X) = true) : (visitNsItems g tb X mt mode links).1.any (linkHasNs g X) = true := by
  rw [visitNsItems_fst, List.any_map]
  obtain ⟨l, hl, h⟩ := List.any_eq_true.1 h
  exact List.any_eq_true.2 ⟨l, hl, linkHasNs_nsStep hD _ l h⟩

theorem evLinked_iff (v : Val α) :
    evLinked g X v = true ↔ ∃ links, sub g g.linksField v = some (.list links) ∧ links.any (linkHasNs g X) = true := by
  unfold evLinked
  split <;> simp_all

theorem evLinked_nsStep (hD : NoNewEmpty mt X.empty) (c : Ctx) (v : Val α) (h : evLinked g X v = true) :
    evLinked g X (nsStep g tb X mt c v).1 = true := by
  cases hs : c.skips g tb X v with
  | true => rw [nsStep_skips hs]; exact h
  | false =>
    rw [evLinked_iff] at h ⊢
    obtain ⟨links, h1, h2⟩ := h
    rcases sub_nsStep hs g.linksField with ⟨e1, _⟩ | ⟨c', w, e1, e2⟩ <;> rw [e1] at h1 <;> cases h1
    rw [e2]
    cases hl : c'.skips g tb X (.list links) with
    | true => rw [nsStep_skips hl]; exact ⟨links, rfl, h2⟩
    | false => rw [nsStep_list hl]; exact ⟨_, rfl, any_linkHasNs_items hD _ links h2⟩

theorem evSkippable_stable (hD : NoNewEmpty mt X.empty) (c : Ctx) (v : Val α)
    (h : evSkippable g tb X v = false) : evSkippable g tb X (nsStep g tb X mt c v).1 = false := by
  unfold evSkippable at h ⊢
  rw [evSkipTy_nsStep]
  cases hl : evLinked g X v with
  | true => rw [evLinked_nsStep hD c v hl]; rfl
  | false =>
    rw [hl] at h
    simp only [Bool.not_false, Bool.true_and] at h
    rw [h, Bool.and_false]

theorem listSkippable_stable (hD : NoNewEmpty mt X.empty) (l : List (Val α))
    (h : listSkippable g tb X l = false) : listSkippable g tb X (visitNsItems g tb X mt .plain l).1 = false := by
  unfold listSkippable at h ⊢
  rw [visitNsItems_fst, List.all_map]
  obtain ⟨v, hv, h⟩ := List.all_eq_false.1 h
  exact List.all_eq_false.2 ⟨v, hv, by simpa using evSkippable_stable hD _ v (by simpa using h)⟩

theorem skipStable_of_noNewEmpty (hD : NoNewEmpty mt X.empty) : SkipStable g tb X mt :=
  ⟨fun v fc h => by rw [visitNs_eq_step]; exact evSkippable_stable hD _ v h,
   fun l h => listSkippable_stable hD l h⟩

variable (g tb X mt) in
theorem skipStable_of_keepsEmpty (hE : KeepsEmpty mt X.empty) : SkipStable g tb X mt :=
  skipStable_of_noNewEmpty (fun s => (hE s).1)

/-- a struct the walk enters is not skipped afterwards: as the root or an event by `SkipStable`; in a `History` the
    walk enters no struct -/
theorem skips_stable (hS : SkipStable g tb X mt) {c : Ctx} {ty : Nat} {fs : List (Val α)}
    (h : c.skips g tb X (.msg ty fs) = false) :
    c.skips g tb X (.msg ty (visitNsFields g tb X mt (nsMode g ty) (g.typeD ty).fields fs).1) = false := by
  have e := hS.ev (.msg ty fs) none
  rw [visitNs_msg] at e
  rcases c with _ | ⟨_ | _ | _, _⟩ | _ | _ | _
  case root =>
    simp only [Ctx.skips, rootSkippable, Bool.or_eq_false_iff, Bool.and_eq_false_iff] at h ⊢
    exact ⟨h.1, h.2.imp id e⟩
  case field.hist => exact h
  case item.events => exact e h
  all_goals rfl

/-- the mapping never translates a non-empty name to the empty name (it may translate the empty name) -/
def MapNoNewEmpty (e : α) (m : List (α × α)) : Prop := ∀ s, translateName m s = e → s = e

theorem mapNoNewEmpty_of_entries (m : List (α × α)) (e : α) (hne : ∀ p ∈ m, p.2 = e → p.1 = e) : MapNoNewEmpty e m := by
  intro s
  unfold translateName
  cases h : lookup m s with
  | none => exact id
  | some t => exact hne _ (mem_of_lookup_eq_some m s t h)

theorem mapNoNewEmpty_of_nonempty (m : List (α × α)) (e : α) (hne : ∀ p ∈ m, p.1 ≠ e ∧ p.2 ≠ e) : MapNoNewEmpty e m :=
  mapNoNewEmpty_of_entries m e (fun p hp h => absurd h (hne p hp).2)

theorem skipStable_of_map (m : List (α × α)) (hE : MapNoNewEmpty X.empty m) : SkipStable g tb X (look m) :=
  skipStable_of_noNewEmpty fun s => by rw [app_look, look_fst]; exact hE s

end S2S.TranslateVal
