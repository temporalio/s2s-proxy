import S2S.Model.Observer
/-! C20: `report` case by case (`report_cases`: ignored, blocked on a held lock, or one counter and `len` updated), and what
    follows for one stream open. -/
namespace S2S.Observer
open S2S.Shard

theorem grow_covers (idx : Int) (n : Nat) (h0 : 0 ≤ idx) (h1 : idx ≤ 1048576) {len' : Nat}
    (e : len' = if idx.toNat ≥ n then
        ((if (idx + 1) * 9 < maxInt32 then (idx + 1) * 9 else maxInt32).tdiv 8).toNat
       else n) :
    n ≤ len' ∧ idx.toNat < len' := by
  have h9 : (idx + 1) * 9 < maxInt32 := by unfold maxInt32; omega
  rw [if_pos h9] at e
  split at e
  · rw [Int.tdiv_eq_ediv_of_nonneg (by omega)] at e
    omega
  · omega

theorem report_cases (o : Obs) (idx value : Int) :
    (¬ (0 ≤ idx ∧ idx ≤ maxObservedStreamIndex) ∧ report o idx value = some (o, .ignored)) ∨
    ((0 ≤ idx ∧ idx ≤ maxObservedStreamIndex) ∧
      ((o.locked = true ∧ report o idx value = none) ∨
       (o.locked = false ∧ ∃ len', o.len ≤ len' ∧ idx.toNat < len' ∧ report o idx value =
          some ({ o with len := len', counters := addCounter o.counters idx.toNat value }, .ok)))) := by
  unfold report
  by_cases h : idx < 0 ∨ idx > maxObservedStreamIndex
  · exact .inl ⟨by omega, by rw [if_pos h]⟩
  · have hacc : 0 ≤ idx ∧ idx ≤ maxObservedStreamIndex := by omega
    refine .inr ⟨hacc, ?_⟩
    rw [if_neg h]
    cases hl : o.locked
    · obtain ⟨hge, hc⟩ := grow_covers idx o.len hacc.1 hacc.2 rfl
      exact .inr ⟨rfl, _, hge, hc, by simp only [Bool.false_eq_true, if_false]; rw [if_pos hc]⟩
    · exact .inl ⟨rfl, by simp⟩

theorem report_total (o : Obs) (idx value : Int) (hfree : o.locked = false) :
    ∃ o' r, report o idx value = some (o', r) ∧ o'.locked = false ∧ r ≠ .panicLocked := by
  rcases report_cases o idx value with ⟨_, h⟩ | ⟨_, ⟨hl, _⟩ | ⟨_, len', _, _, h⟩⟩
  · exact ⟨_, _, h, hfree, by decide⟩
  · rw [hfree] at hl; cases hl
  · exact ⟨_, _, h, hfree, by decide⟩

theorem addCounter_lookup_ne (l : List (Nat × Int)) (i : Nat) (v : Int) (j : Nat) (hj : j ≠ i) :
    (addCounter l i v).lookup j = l.lookup j := by
  have hji : (j == i) = false := by simpa using hj
  fun_induction addCounter l i v <;> simp [List.lookup_cons, *]

/-- an open whose metadata decodes: both reports go through without a panic, so the result is the handler body's -/
theorem openStream_decoded (o : Obs) (mode : Mode) (p : LCMParams) {cc cs sc ss : String} {md : StreamMD}
    (hfree : o.locked = false) (hdec : decodeMD cc cs sc ss = .ok md) :
    ∃ o2, o2.locked = false ∧ openStream report o mode p cc cs sc ss =
      (o2, match mode with
           | .lcm => if (lcmForward p md).isSome then .served else .rejectedPanic
           | _ => .served) := by
  obtain ⟨o1, r1, h1, hf1, hr1⟩ := report_total o md.serverShard 1 hfree
  obtain ⟨o2, r2, h2, hf2, hr2⟩ := report_total o1 md.serverShard (-1) hf1
  refine ⟨o2, hf2, ?_⟩
  unfold openStream
  rw [hdec]; simp only [h1]
  cases r1 with
  | panicLocked => exact absurd rfl hr1
  | _ =>
    simp only [h2]
    cases r2 with
    | panicLocked => exact absurd rfl hr2
    | _ => rfl

end S2S.Observer
