import S2S.Model.ConnMap
import S2S.Proofs.Run
/-! Invariant of the table ⇄ client-connection coupling (C11) and its consequences. -/
namespace S2S.ConnMap

def pairs (l : List Sess) : List (Nat × Nat) := l.map fun s => (s.key, s.obj)

/-- the numbers `l` (the keys, the objects of the table) increase strictly and lie below the counter `b` that issues them:
    no two entries share one, and a new entry is above every present one, which keeps the order at `add` -/
def Below (l : List Nat) (b : Nat) : Prop := (∀ x ∈ l, x < b) ∧ l.Pairwise (· < ·)

theorem Below.push {l : List Nat} {b : Nat} (h : Below l b) : Below (l ++ [b]) (b + 1) :=
  ⟨List.forall_mem_append.2 ⟨fun x hx => Nat.lt_succ_of_lt (h.1 x hx), by simp⟩,
   List.pairwise_append.2 ⟨h.2, List.pairwise_singleton _ _, by simpa using h.1⟩⟩

theorem Below.sublist {l l' : List Nat} {b : Nat} (h : Below l b) (hs : l'.Sublist l) : Below l' b :=
  ⟨fun x hx => h.1 x (hs.subset hx), h.2.sublist hs⟩

structure Inv (σ : St) : Prop where
  /-- the client connection holds the table as last published: the same (key, object) pairs, `nil` exactly for the
      empty table, one endpoint per key -/
  map  : σ.connMap.getD [] = pairs σ.muxes
  nil  : σ.connMap = none ↔ σ.muxes = []
  eps  : σ.endpoints = σ.keys
  keys : Below (σ.muxes.map (·.key)) σ.seq
  /-- needed by `alive_iff` only -/
  objs : Below (σ.muxes.map (·.obj)) σ.nextObj

theorem inv_init (n : Nat) : Inv (St.init n) := by
  constructor <;> simp [St.init, pairs, St.keys, Below]

theorem notifyChange_eq (σ : St) : notifyChange σ =
    { σ with connMap := if σ.muxes = [] then none else some (pairs σ.muxes), endpoints := σ.keys, applied := true } := by
  unfold notifyChange onConnectionListUpdate updateState
  cases h : σ.muxes <;> simp [pairs, St.keys, h, List.map_map, Function.comp_def]

theorem inv_notify (σ : St) (hk : Below (σ.muxes.map (·.key)) σ.seq) (ho : Below (σ.muxes.map (·.obj)) σ.nextObj) :
    Inv (notifyChange σ) := by
  rw [notifyChange_eq]
  refine ⟨?_, ?_, rfl, hk, ho⟩ <;> dsimp only <;> split <;> simp_all [pairs]

inductive Step (σ : St) : Act → St → Prop
  | add (hc : σ.live = true ∧ σ.muxes.length < σ.cap) : Step σ .add
      (notifyChange { σ with muxes := σ.muxes ++ [{ key := σ.seq, obj := σ.nextObj }], seq := σ.seq + 1, nextObj := σ.nextObj + 1 })
  | kill (k : Nat) (hk : σ.keys.contains k = true) :
      Step σ (.kill k) { σ with muxes := σ.muxes.map fun s => if s.key = k then { s with alive := false } else s }
  | unregister (k : Nat) (hk : σ.keys.contains k = true) :
      Step σ (.unregister k) (notifyChange { σ with muxes := σ.muxes.filter fun s => s.key ≠ k })
  | cancel (hl : σ.live = true) : Step σ .cancel { σ with live := false }

theorem Step.of_step {σ σ' : St} {a : Act} (h : step σ a = some σ') : Step σ a σ' := by
  revert h
  fun_cases step σ a <;> intro h <;> cases h <;> constructor <;> assumption

theorem inv_step {σ σ' : St} {a : Act} (hi : Inv σ) (hs : Step σ a σ') : Inv σ' := by
  cases hs with
  | add => exact inv_notify _ (by simpa using hi.keys.push) (by simpa using hi.objs.push)
  | kill k =>
    -- `Inv` reads the table only through `key` and `obj`, and `kill` changes only `alive`
    have hm {β : Type} (f : Sess → β) (hf : ∀ s, f { s with alive := false } = f s) :
        (σ.muxes.map fun s => if s.key = k then { s with alive := false } else s).map f = σ.muxes.map f :=
      List.map_map.trans (List.map_congr_left fun s _ => by dsimp only [Function.comp]; split <;> simp [hf])
    exact ⟨hi.map.trans (hm _ fun _ => rfl).symm, by simpa using hi.nil, hi.eps.trans (hm (·.key) fun _ => rfl).symm,
      by simpa only [hm (·.key) fun _ => rfl] using hi.keys, by simpa only [hm (·.obj) fun _ => rfl] using hi.objs⟩
  | unregister k =>
    exact inv_notify _ (hi.keys.sublist (List.filter_sublist.map _)) (hi.objs.sublist (List.filter_sublist.map _))
  | cancel => exact { hi with }

theorem run_induct {P : St → Prop} (hstep : ∀ {σ σ' a}, P σ → Step σ a σ' → P σ') (acts : List Act) (σ : St)
    (h0 : P σ) : P (run σ acts) :=
  foldl_getD_induct (fun _ _ _ h hs => hstep h (.of_step hs)) acts σ h0

theorem inv_reach (n : Nat) (acts : List Act) : Inv (run (St.init n) acts) :=
  run_induct inv_step acts _ (inv_init n)

theorem pw_inj {α} (f : α → Nat) (l : List α) (hp : (l.map f).Pairwise (· < ·)) :
    ∀ a ∈ l, ∀ b ∈ l, f a = f b → a = b :=
  have hp := List.pairwise_map.1 hp
  fun _ ha _ hb => List.Pairwise.forall_of_forall_of_flip (R := fun a b => f a = f b → a = b) (fun _ _ _ => rfl)
    (hp.imp fun h e => absurd e (Nat.ne_of_lt h)) (hp.imp fun h e => absurd e.symm (Nat.ne_of_lt h)) ha hb

theorem find_key {l : List Sess} (hp : (l.map (·.key)).Pairwise (· < ·)) {s : Sess} (hs : s ∈ l) :
    l.find? (fun t => t.key = s.key) = some s := by
  cases h : l.find? (fun t => t.key = s.key) with
  | none => simpa using List.find?_eq_none.1 h s hs
  | some t =>
    have hk : t.key = s.key := by simpa using List.find?_some h
    rw [pw_inj (·.key) l hp t (List.mem_of_find?_eq_some h) s hs hk]

theorem alive_iff {σ : St} (hi : Inv σ) {s : Sess} (hs : s ∈ σ.muxes) : sessionAlive σ s.obj = s.alive := by
  rw [Bool.eq_iff_iff]
  simp only [sessionAlive, List.any_eq_true, decide_eq_true_eq]
  exact ⟨fun ⟨t, ht, ho, ha⟩ => pw_inj (·.obj) _ hi.objs.2 t ht s hs ho ▸ ha, fun ha => ⟨s, hs, rfl, ha⟩⟩

theorem dial_stream_iff {σ : St} (hi : Inv σ) (k o : Nat) :
    dial σ k = .stream o ↔ ∃ s ∈ σ.muxes, s.key = k ∧ s.obj = o ∧ s.alive = true := by
  simp only [dial, hi.map, pairs, List.find?_map, Function.comp_def]
  constructor
  · intro h
    cases hf : σ.muxes.find? (fun s => s.key = k) with
    | none => simp [hf] at h
    | some s =>
      have hs := List.mem_of_find?_eq_some hf
      have hk : s.key = k := by simpa using List.find?_some hf
      simp only [hf, Option.map_some, alive_iff hi hs] at h
      split at h <;> cases h
      exact ⟨s, hs, hk, rfl, ‹_›⟩
  · rintro ⟨s, hs, rfl, rfl, ha⟩
    rw [find_key hi.keys.2 hs]
    simp [alive_iff hi hs, ha]

theorem dial_noKey_iff {σ : St} (hi : Inv σ) (k : Nat) : dial σ k = .noKey ↔ k ∉ σ.keys := by
  have hk : k ∉ σ.keys ↔ (σ.connMap.getD []).find? (fun p => p.1 = k) = none := by simp [hi.map, pairs, St.keys]
  rw [hk, dial]
  split
  · simp [*]
  · split <;> simp [*]

theorem ready_iff {σ : St} (hi : Inv σ) (k : Nat) :
    k ∈ readyEndpoints σ ↔ ∃ s ∈ σ.muxes, s.key = k ∧ s.alive = true := by
  simp only [readyEndpoints, List.mem_filter, hi.eps]
  constructor
  · rintro ⟨_, h⟩
    split at h
    · obtain ⟨s, hs, hk, _, ha⟩ := (dial_stream_iff hi k _).mp ‹_›
      exact ⟨s, hs, hk, ha⟩
    · cases h
  · rintro ⟨s, hs, hk, ha⟩
    refine ⟨List.mem_map.2 ⟨s, hs, hk⟩, ?_⟩
    rw [(dial_stream_iff hi k s.obj).mpr ⟨s, hs, hk, rfl, ha⟩]

theorem served_inv {B : Balancer} {σ : St} {i o : Nat} (hi : Inv σ) (h : rpc B σ i = .served o) :
    ∃ s ∈ σ.muxes, s.obj = o ∧ s.alive = true := by
  -- of the five branches of `rpc` only the one whose dialer yields a stream on `o` answers `served o`
  fun_cases rpc B σ i <;> simp_all [rpc]
  obtain ⟨s, hs, _, ho, ha⟩ := (dial_stream_iff hi _ o).mp ‹_›
  exact ⟨s, hs, ho, ha⟩

theorem failover_inv (B : Balancer) {σ : St} (hi : Inv σ) (i : Nat) (hl : σ.live = true) (ha : σ.applied = true)
    (hs : ∃ s ∈ σ.muxes, s.alive = true) : ∃ o, rpc B σ i = .served o := by
  obtain ⟨s, hs, hal⟩ := hs
  have hready : readyEndpoints σ ≠ [] := List.ne_nil_of_mem ((ready_iff hi s.key).mpr ⟨s, hs, rfl, hal⟩)
  unfold rpc
  simp only [hl, ha, Bool.true_eq_false, if_false]
  cases hp : B.pick (readyEndpoints σ) i with
  | none => exact absurd ((B.pick_none _ _).mp hp) hready
  | some k =>
    have hk := (List.mem_filter.1 (B.pick_mem _ _ _ hp)).2
    cases hd : dial σ k <;> simp [hd] at hk ⊢

theorem unavailable_inv (B : Balancer) {σ : St} (hi : Inv σ) (i : Nat) (hl : σ.live = true) (ha : σ.applied = true)
    (hs : ∀ s ∈ σ.muxes, s.alive = false) : rpc B σ i = .unavailable := by
  have hready : readyEndpoints σ = [] := by
    apply List.eq_nil_iff_forall_not_mem.mpr
    intro k hk
    obtain ⟨t, ht, _, htal⟩ := (ready_iff hi k).mp hk
    rw [hs t ht] at htal; cases htal
  unfold rpc
  simp only [hl, ha, Bool.true_eq_false, if_false, hready, (B.pick_none [] i).mpr rfl]

theorem Step.cap {σ σ' : St} {a : Act} (hs : Step σ a σ') : σ'.cap = σ.cap := by
  cases hs <;> first | rfl | rw [notifyChange_eq]

theorem run_cap (acts : List Act) (σ : St) : (run σ acts).cap = σ.cap :=
  run_induct (P := fun τ => τ.cap = σ.cap) (fun h hs => hs.cap.trans h) acts σ rfl

theorem add_spec (σ : St) (hl : σ.live = true) (hroom : σ.muxes.length < σ.cap) :
    ∃ σ', step σ .add = some σ' ∧ σ'.live = true ∧ σ'.applied = true ∧ ∃ s ∈ σ'.muxes, s.alive = true := by
  refine ⟨_, if_pos ⟨hl, hroom⟩, ?_⟩
  rw [notifyChange_eq]
  exact ⟨hl, rfl, _, List.mem_append_right _ (List.mem_singleton.mpr rfl), rfl⟩

theorem run_snoc (σ : St) (acts : List Act) (a : Act) :
    run σ (acts ++ [a]) = (step (run σ acts) a).getD (run σ acts) := by
  simp [run, List.foldl_append]

end S2S.ConnMap
