import S2S.Proofs.Utf8Valid
import S2S.Spec.Utf8
/-! The decomposition of `toValidUtf8`'s input into maximal valid segments and maximal invalid runs:
what the output is, existence, alternation, uniqueness. -/
namespace S2S.Utf8

theorem Decomp.flatten_eq {s : Bytes} {segs : List Seg} (h : Decomp s segs) : flatten segs = s := by
  induction h with
  | nil => rfl
  | good g _ _ _ _ _ _ ih => exact congrArg (g ++ ·) ih
  | bad b _ _ _ _ _ _ ih => exact congrArg (b ++ ·) ih

/-- the bad-run clause of `Decomp.bad`: every byte of `b` is an ill-formed head in front of what follows it -/
abbrev BadRun (b rest : Bytes) : Prop := ∀ k, k < b.length → runeLen (b.drop k ++ rest) = 0

theorem BadRun.cons {x : UInt8} {b rest : Bytes} (h : runeLen (x :: (b ++ rest)) = 0) (hk : BadRun b rest) :
    BadRun (x :: b) rest
  | 0, _ => h
  | k + 1, hlt => by simpa using hk k (by simpa using hlt)

theorem BadRun.tail {x : UInt8} {b rest : Bytes} (hk : BadRun (x :: b) rest) : BadRun b rest :=
  fun k hlt => by simpa using hk (k + 1) (by simpa using hlt)

theorem BadRun.head {b rest : Bytes} (hne : b ≠ []) (hk : BadRun b rest) : runeLen (b ++ rest) = 0 := by
  simpa using hk 0 (List.length_pos_iff.2 hne)

theorem tv_bad_run {b rest : Bytes} (hne : b ≠ []) (hk : BadRun b rest) (inv : Bool) :
    tv inv (b ++ rest) = (if inv then [] else repl) ++ tv true rest := by
  induction b generalizing inv with
  | nil => exact absurd rfl hne
  | cons x b ih =>
    have h0 : runeLen (x :: (b ++ rest)) = 0 := BadRun.head hne hk
    rw [List.cons_append, tv_bad h0 inv]
    by_cases hb : b = []
    · subst hb; rfl
    · rw [ih hb hk.tail true]
      simp

theorem toValidUtf8_bad_run {b rest : Bytes} (hne : b ≠ []) (hk : BadRun b rest) (hmax : rest = [] ∨ 0 < runeLen rest) :
    toValidUtf8 (b ++ rest) = repl ++ toValidUtf8 rest := by
  rw [toValidUtf8_eq_tv, tv_bad_run hne hk false, tv_flag hmax true]; rfl

theorem Decomp.toValidUtf8_eq {s : Bytes} {segs : List Seg} (h : Decomp s segs) : toValidUtf8 s = render segs := by
  induction h with
  | nil => rfl
  | good g rest segs hne hv _ _ ih =>
    rw [toValidUtf8_valid_append g rest hv, ih]; rfl
  | bad b rest segs hne hk hmax _ ih =>
    rw [toValidUtf8_bad_run hne hk hmax, ih]; rfl

theorem good_head_pos {g : Bytes} (rest : Bytes) (hne : g ≠ []) (hv : validUtf8 g = true) : 0 < runeLen (g ++ rest) := by
  cases validUtf8_iff.1 hv with
  | nil => exact absurd rfl hne
  | cons hr _ => rw [List.append_assoc, hr.decodes]; exact List.length_pos_iff.2 hr.ne_nil

/-- what the kind of the head segment says about the head of `s`; with the constructors' maximality clauses
    this makes neighbouring segments differ in kind -/
theorem Decomp.alternate {s : Bytes} {segs : List Seg} (h : Decomp s segs) :
    (∀ g, segs.head? = some (.good g) → 0 < runeLen s) ∧ (∀ b, segs.head? = some (.bad b) → s ≠ [] ∧ runeLen s = 0) := by
  cases h with
  | nil => simp
  | good g rest segs hne hv _ _ => exact ⟨fun _ _ => good_head_pos rest hne hv, fun b hb => by simp at hb⟩
  | bad b rest segs hne hk _ _ => exact ⟨fun g hg => by simp at hg, fun _ _ => ⟨by simp [hne], BadRun.head hne hk⟩⟩

/-- Along the decoder: a well-formed sequence (an ill-formed byte) in front of a decomposed rest joins
    the head segment if that is of its own kind and opens a new segment otherwise; `alternate` says
    that the new segment is maximal. -/
theorem exists_decomp (s : Bytes) : ∃ segs, Decomp s segs := by
  induction s using decode_induction with
  | nil => exact ⟨[], .nil⟩
  | rune r t hr ih =>
    obtain ⟨segs, hd⟩ := ih
    have hv : validUtf8 r = true := by simpa using validUtf8_rune hr []
    cases hd with
    | nil => exact ⟨[.good r], .good r [] [] hr.ne_nil hv rfl .nil⟩
    | good g rest segs hne hv' hmax hd =>
      refine ⟨.good (r ++ g) :: segs, ?_⟩
      rw [← List.append_assoc]
      exact .good _ _ _ (by simp [hr.ne_nil]) (by rw [validUtf8_rune hr, hv']) hmax hd
    | bad b rest segs hne hk hmax hd =>
      exact ⟨.good r :: .bad b :: segs, .good r _ _ hr.ne_nil hv (BadRun.head hne hk) (.bad b rest segs hne hk hmax hd)⟩
  | bad x t h ih =>
    obtain ⟨segs, hd⟩ := ih
    have h1 : BadRun [x] t := BadRun.cons h nofun
    cases hd with
    | nil => exact ⟨[.bad [x]], .bad [x] [] [] (by simp) h1 (Or.inl rfl) .nil⟩
    | good g rest segs hne hv hmax hd =>
      exact ⟨.bad [x] :: .good g :: segs,
        .bad [x] _ _ (by simp) h1 (Or.inr (good_head_pos rest hne hv)) (.good g rest segs hne hv hmax hd)⟩
    | bad b rest segs hne hk hmax hd =>
      exact ⟨.bad (x :: b) :: segs, .bad (x :: b) rest segs (by simp) (BadRun.cons h hk) hmax hd⟩

/-- a good segment that is a prefix of another one is all of it: what hangs over would begin the rest with a rune -/
private theorem good_overhang {g rest g' rest' c : Bytes} (hg' : g' = g ++ c) (hrest : rest = c ++ rest')
    (hv : validUtf8 g = true) (hv' : validUtf8 g' = true) (hmax : runeLen rest = 0) : g' = g := by
  suffices c = [] by rw [hg', this, List.append_nil]
  refine Classical.byContradiction fun hc => ?_
  rw [hg', validUtf8_valid_append g c hv] at hv'
  have := good_head_pos rest' hc hv'
  rw [← hrest] at this
  omega

private theorem bad_overhang {b rest b' rest' c : Bytes} (hb' : b' = b ++ c) (hrest : rest = c ++ rest')
    (hk' : BadRun b' rest') (hmax : rest = [] ∨ 0 < runeLen rest) : b' = b := by
  suffices c = [] by rw [hb', this, List.append_nil]
  refine Classical.byContradiction fun hc => ?_
  have := hk' b.length (by have := List.length_pos_iff.2 hc; rw [hb', List.length_append]; omega)
  rw [hb', List.drop_left, ← hrest] at this
  rcases hmax with h | h
  · exact hc (List.append_eq_nil_iff.1 (hrest ▸ h)).1
  · omega

theorem Decomp.unique {s : Bytes} {a b : List Seg} (ha : Decomp s a) (hb : Decomp s b) : a = b := by
  induction ha generalizing b with
  | nil =>
    match b, hb.alternate with
    | [], _ => rfl
    | .good g :: _, h => exact absurd (h.1 g rfl) (Nat.lt_irrefl 0)
    | .bad x :: _, h => exact absurd rfl (h.2 x rfl).1
  | good g rest segs hne hv hmax hd ih =>
    have halt := good_head_pos rest hne hv
    generalize hs : g ++ rest = s at hb halt
    cases hb with
    | nil => exact absurd halt (Nat.lt_irrefl 0)
    | good g' rest' segs' hne' hv' hmax' hd' =>
      obtain rfl : g' = g := by
        rcases List.append_eq_append_iff.mp hs with ⟨c, h1, h2⟩ | ⟨c, h1, h2⟩
        · exact good_overhang h1 h2 hv hv' hmax
        · exact (good_overhang h1 h2 hv' hv hmax').symm
      obtain rfl := List.append_cancel_left hs
      rw [ih hd']
    | bad x rest' segs' hne' hk' hmax' hd' =>
      have := BadRun.head hne' hk'
      omega
  | bad x rest segs hne hk hmax hd ih =>
    have halt := BadRun.head hne hk
    generalize hs : x ++ rest = s at hb halt
    cases hb with
    | nil => exact absurd (List.append_eq_nil_iff.1 hs).1 hne
    | good g' rest' segs' hne' hv' hmax' hd' =>
      have := good_head_pos rest' hne' hv'
      omega
    | bad x' rest' segs' hne' hk' hmax' hd' =>
      obtain rfl : x' = x := by
        rcases List.append_eq_append_iff.mp hs with ⟨c, h1, h2⟩ | ⟨c, h1, h2⟩
        · exact bad_overhang h1 h2 hk' hmax
        · exact (bad_overhang h1 h2 hk hmax').symm
      obtain rfl := List.append_cancel_left hs
      rw [ih hd']

end S2S.Utf8
