import S2S.Proofs.RingBasic
/-!
The simulation between the ring and the history-defined reference `Ref`: the relation `Rel`, stated on `pairsOf` (the
non-hole entries of the logical contents, tagged with their ids — the vocabulary `RingAgg` and the routing refinement
share), is preserved by `append` / `discard` along a `Good` history. `append` is taken apart: each of its primitives
keeps the ring related to a reference of its own.
-/
namespace S2S.Ring

/-- non-hole entries of a logical content list, tagged with ids `s, s+1, …` -/
def pairsOf : Int → List Entry → List (Int × Entry)
  | _, [] => []
  | s, e :: es => (if e.isHole then [] else [(s, e)]) ++ pairsOf (s + 1) es

@[simp] theorem pairsOf_nil (s : Int) : pairsOf s [] = [] := rfl

theorem pairsOf_cons (s : Int) (e : Entry) (es : List Entry) :
    pairsOf s (e :: es) = (if e.isHole then [] else [(s, e)]) ++ pairsOf (s + 1) es := rfl

theorem pairsOf_append (s : Int) (xs ys : List Entry) :
    pairsOf s (xs ++ ys) = pairsOf s xs ++ pairsOf (s + (xs.length : Int)) ys := by
  fun_induction pairsOf s xs <;> simp_all [pairsOf, Int.add_assoc, Int.add_comm (1 : Int)]

theorem pairsOf_mem_ge {s : Int} {xs : List Entry} {x : Int × Entry} (h : x ∈ pairsOf s xs) : s ≤ x.1 := by
  induction xs generalizing s with
  | nil => simp at h
  | cons e es ih =>
    rw [pairsOf_cons, List.mem_append] at h
    rcases h with h | h
    · split at h
      · simp at h
      · rw [List.mem_singleton.1 h]; exact Int.le_refl _
    · have := ih h
      omega

theorem pairs_eq_pairsOf (b : Buf) : b.pairs = pairsOf b.start b.items := by
  unfold Buf.pairs Buf.items
  generalize b.size = n
  induction n with
  | zero => rfl
  | succ n ih =>
    rw [List.range_succ, List.filterMap_append, List.map_append, pairsOf_append, ih]
    simp only [List.filterMap_cons, List.filterMap_nil, List.map_cons, List.map_nil,
      List.length_map, List.length_range, pairsOf_cons, pairsOf_nil, List.append_nil]
    split <;> simp_all

theorem pairsOf_drop (s : Int) (xs : List Entry) (c : Nat) :
    pairsOf (s + (c : Int)) (xs.drop c) =
      (pairsOf s xs).filter (fun x => decide (s + (c : Int) ≤ x.1)) := by
  induction c generalizing s xs with
  | zero => simpa using (List.filter_eq_self.2 fun x hx => by simpa using pairsOf_mem_ge hx).symm
  | succ c ih =>
    cases xs with
    | nil => simp
    | cons e es =>
      have h1 : s + ((c + 1 : Nat) : Int) = (s + 1) + (c : Int) := by omega
      rw [List.drop_succ_cons, pairsOf_cons, List.filter_append, h1, ih]
      split
      · rfl
      · rw [List.filter_cons_of_neg (by simp only [decide_eq_true_eq]; omega)]; rfl

/-- the ring holds what the reference holds: same window `[lo, hi)`, same tagged non-hole contents -/
structure Rel (b : Buf) (r : Ref) : Prop where
  wf : b.WF
  start : b.start = r.lo
  size : r.hi = r.lo + (b.size : Int)
  out : pairsOf b.start b.items = r.out

theorem Rel.init (c : Int) : Rel (new c) {} :=
  ⟨new_wf c, rfl, rfl, by simp⟩

theorem Rel.ensure {b : Buf} {r : Ref} (h : Rel b r) : Rel b.ensureCapacity r := by
  obtain ⟨hwf', hit', -⟩ := ensureCapacity_spec h.wf
  exact ⟨hwf', (ensureCapacity_start b).trans h.start, by rw [ensureCapacity_size]; exact h.size,
    by rw [ensureCapacity_start, hit']; exact h.out⟩

theorem Rel.tail {b : Buf} {r : Ref} (h : Rel b r) (e : Entry) :
    Rel (b.ensureCapacity.writeTail e)
      { out := r.out ++ (if e.isHole then [] else [(r.hi, e)]), lo := r.lo, hi := r.hi + 1 } := by
  obtain ⟨hwf, hst, hsz, hout⟩ := h
  obtain ⟨hwf', hit', hst'⟩ := appendTail_spec hwf e
  refine ⟨hwf', hst'.trans hst, ?_, ?_⟩
  · rw [writeTail_size, ensureCapacity_size]; simp only [Int.natCast_succ]; omega
  · rw [hst', hit', pairsOf_append, pairsOf_cons, pairsOf_nil, List.append_nil, hout, items_length,
      show b.start + (b.size : Int) = r.hi by omega]

theorem Rel.fill {b : Buf} {r : Ref} (h : Rel b r) (n : Nat) : Rel (b.fillHoles n) { r with hi := r.hi + (n : Int) } := by
  induction n generalizing b r with
  | zero => simpa [Buf.fillHoles] using h
  | succ n ih => simpa [Buf.fillHoles, hole, Entry.isHole, Int.add_assoc, Int.add_comm 1] using ih (h.tail hole)

theorem Rel.mid {b : Buf} {r : Ref} (h : Rel b r) (p : Int) (hp : r.hi = r.lo ∨ r.hi ≤ p) :
    Rel (b.mid p) { out := r.out, lo := if r.hi = r.lo then p else r.lo, hi := p } := by
  have hsz := h.size
  have hst := h.start
  unfold Buf.mid
  by_cases e : r.hi = r.lo
  · have h0 : b.size = 0 := by omega
    rw [if_pos h0, if_pos e]
    refine ⟨h.wf, rfl, by simp only; omega, ?_⟩
    show pairsOf p b.items = r.out
    rw [← h.out, List.eq_nil_of_length_eq_zero ((items_length b).trans h0)]; rfl
  · rw [if_neg (show ¬ b.size = 0 by omega), if_neg e]
    have hf := h.fill (p - (b.start + (b.size : Int))).toNat
    rwa [show r.hi + ((p - (b.start + (b.size : Int))).toNat : Int) = p by omega] at hf

theorem Rel.append {b : Buf} {r : Ref} (h : Rel b r) (p : Int) (e : Entry)
    (hp : r.hi = r.lo ∨ r.hi ≤ p) (he : e.isHole = false) :
    Rel (b.append true p e) (r.step (.append p e)) := by
  simpa [append_eq, Ref.step, he] using (h.ensure.mid p hp).tail e

/-- a proper discard clamps like the ring does: by `min`, against the length of the window -/
theorem refStep_discard {r : Ref} {len : Nat} (h : r.hi = r.lo + (len : Int)) {n : Int} (hn : ¬ n ≤ 0) :
    (r.step (.discard n)).out = r.out.filter (fun x => decide (r.lo + (min n.toNat len : Nat) ≤ x.1)) ∧
    (r.step (.discard n)).lo = r.lo + (min n.toNat len : Nat) ∧ (r.step (.discard n)).hi = r.hi := by
  have hc : (if n > r.hi - r.lo then r.hi - r.lo else n) = (min n.toNat len : Nat) := by split <;> omega
  simp only [Ref.step, if_neg hn, hc, and_self]

theorem Rel.discard {b : Buf} {r : Ref} (h : Rel b r) (n : Int) :
    Rel (b.discard n) (r.step (.discard n)) := by
  by_cases hn : n ≤ 0
  · rw [show b.discard n = b from if_pos hn, show r.step (.discard n) = r from if_pos hn]; exact h
  obtain ⟨hwf, hst, hsz, hout⟩ := h
  obtain ⟨hwf', hit', hst', hsz'⟩ := discard_spec hwf n
  obtain ⟨ho, hl, hh⟩ := refStep_discard hsz hn
  exact ⟨hwf', by rw [hst', hl, hst], by omega, by rw [ho, hst', hit', pairsOf_drop, hout, hst]⟩

theorem Rel.run {b : Buf} {r : Ref} (h : Rel b r) (ops : List Op) (hg : Good r ops) :
    Rel (b.run true ops) (ops.foldl Ref.step r) := by
  induction ops generalizing b r with
  | nil => exact h
  | cons op rest ih =>
    rw [Buf.run, List.foldl_cons, List.foldl_cons]
    cases op with
    | append p e => exact ih (h.append p e hg.1 hg.2.1) hg.2.2
    | aggregate w => exact ih h hg
    | discard n => exact ih (h.discard n) hg

theorem Rel.run_init (c : Int) (ops : List Op) (hg : Good {} ops) :
    Rel ((new c).run true ops) (Ref.run ops) :=
  (Rel.init c).run ops hg

theorem _root_.S2S.Routing.refRun_append (ops ops' : List Op) : Ref.run (ops ++ ops') = ops'.foldl Ref.step (Ref.run ops) := by
  simp [Ref.run, List.foldl_append]

theorem refRun_snoc (ops : List Op) (op : Op) : Ref.run (ops ++ [op]) = (Ref.run ops).step op :=
  Routing.refRun_append ops [op]

theorem refGood_append (r : Ref) (ops ops' : List Op) :
    Good r (ops ++ ops') ↔ Good r ops ∧ Good (ops.foldl Ref.step r) ops' := by
  fun_induction Good r ops <;> simp_all [Good, and_assoc]

end S2S.Ring
