import S2S.Proofs.RoutingRingSpec
import S2S.Proofs.RingAgg
import S2S.Proofs.RoutingBasic
/-!
What C05R needs that involves no step of the machine: the relation `RRel` between a target's abstract ring (with
`nextProxyId`) and the C05 reference `Ref` of its ghost op history, kept by `append` / `discard`; and the read-outs: under
`RRel` the abstract `aggregate` (prefix scan + insert-or-max) is the reference's `expected` / `expectedCount`.
-/
namespace S2S.Routing

open S2S.Ring (Op Entry Key Ref Good)

abbrev ARing := List (Int × SId × Int)

/-- the ring's proxy ids are `lo, lo+1, lo+2, …` -/
def Contig : Int → ARing → Prop
  | _, [] => True
  | lo, e :: r => e.1 = lo ∧ Contig (lo + 1) r

theorem contig_append {lo : Int} {l : ARing} {e : Int × SId × Int} :
    Contig lo (l ++ [e]) ↔ Contig lo l ∧ e.1 = lo + (l.length : Int) := by
  fun_induction Contig lo l <;> simp_all [Contig, and_assoc, Int.add_assoc, Int.add_comm (1 : Int)]

theorem contig_pairs {lo : Int} {l : ARing} (h : Contig lo l) :
    l.map ringPair = Ring.pairsOf lo (l.map fun e => ringEntry e.2.1 e.2.2) := by
  induction l generalizing lo with
  | nil => rfl
  | cons a r ih =>
    rw [List.map_cons, List.map_cons, Ring.pairsOf_cons, ← ih h.2, ← h.1]
    rfl

theorem contig_drop {lo : Int} {l : ARing} (h : Contig lo l) (d : Nat) :
    Contig (lo + (d : Int)) (l.drop d) := by
  induction d generalizing lo l with
  | zero => simpa using h
  | succ d ih =>
    cases l with
    | nil => trivial
    | cons a r => rw [show lo + ((d + 1 : Nat) : Int) = lo + 1 + (d : Int) by omega]; exact ih h.2

theorem contig_takeWhile {lo : Int} {l : ARing} (h : Contig lo l) (w : Int) :
    l.takeWhile (fun e => decide (e.1 ≤ w)) = l.take (w - lo + 1).toNat := by
  induction l generalizing lo with
  | nil => simp
  | cons a r ih =>
    have h1 := h.1
    by_cases ha : a.1 ≤ w
    · rw [List.takeWhile_cons_of_pos (by simpa using ha), ih h.2,
        show (w - lo + 1).toNat = (w - (lo + 1) + 1).toNat + 1 by omega, List.take_succ_cons]
    · rw [List.takeWhile_cons_of_neg (by simpa using ha), show (w - lo + 1).toNat = 0 by omega, List.take_zero]

/-- abstract ring + `nextProxyId` of one target  vs  the C05 reference of its op history -/
structure RRel (ring : ARing) (npid : Int) (r : Ref) : Prop where
  out    : ring.map ringPair = r.out
  contig : Contig r.lo ring
  hi     : r.hi = r.lo + (ring.length : Int)
  -- while the window is not empty its last id is `npid` (after a discard of everything `hi` stays where it was)
  eq     : r.hi = r.lo ∨ r.hi = npid + 1
  -- proxy ids start at 1: what keeps `w - lo + 1` of an int64 `w` from wrapping (`C05R_physical_ring_agrees_int64`)
  np0    : 0 ≤ npid
  lo1    : r.hi = r.lo ∨ 1 ≤ r.lo

theorem RRel.init : RRel [] 0 {} :=
  ⟨rfl, trivial, rfl, .inl rfl, by decide, .inl rfl⟩

theorem ringEntry_not_hole (s : SId) (o : Int) : (ringEntry s o).isHole = false := by
  simp [ringEntry, Entry.isHole]

theorem RRel.append {ring : ARing} {npid : Int} {r : Ref} (h : RRel ring npid r) (s : SId) (o : Int) :
    RRel (ring ++ [(npid + 1, s, o)]) (npid + 1) (r.step (.append (npid + 1) (ringEntry s o))) := by
  obtain ⟨hout, hcg, hhi, heq, hnp, hlo⟩ := h
  obtain ⟨lo', e', h1, h2, h3⟩ : ∃ lo', (if r.hi = r.lo then npid + 1 else r.lo) = lo' ∧
      Contig lo' ring ∧ lo' + (ring.length : Int) = npid + 1 ∧ 1 ≤ lo' := by
    by_cases hr : r.hi = r.lo
    · obtain rfl : ring = [] := List.length_eq_zero_iff.1 (by omega)
      exact ⟨_, if_pos hr, trivial, by simp, by omega⟩
    · exact ⟨_, if_neg hr, hcg, by omega, by omega⟩
  simp only [Ref.step, e']
  refine ⟨by rw [List.map_append, hout]; rfl, contig_append.2 ⟨h1, h2.symm⟩, ?_, .inr rfl, Int.le_add_one hnp, .inr h3⟩
  simp only [List.length_append, List.length_cons, List.length_nil]; omega

/-- the entries `process` appends for a `.tasks s ids` message -/
def taskEntries (npid : Int) (s : SId) : List Int → ARing
  | [] => []
  | o :: rest => (npid + 1, s, o) :: taskEntries (npid + 1) s rest

theorem taskEntries_length (npid : Int) (s : SId) (ids : List Int) :
    (taskEntries npid s ids).length = ids.length := by
  fun_induction taskEntries npid s ids <;> simp [*]

theorem process_entries_eq (npid : Int) (s : SId) (ids : List Int) :
    (ids.zip ((List.range ids.length).map (fun (i : Nat) => npid + 1 + (i : Int)))).map
        (fun (o, p) => (p, s, o)) = taskEntries npid s ids := by
  fun_induction taskEntries npid s ids
  · rfl
  · next npid o rest ih =>
    simp [List.range_succ_eq_map, ← ih, Function.comp_def, Int.add_assoc, Int.add_comm (1 : Int), Int.add_comm (2 : Int)]

/-- the invariant: the history is inside C05's hypotheses and its reference matches the ring -/
def RInv (ring : ARing) (npid : Int) (ops : List Op) : Prop :=
  Good {} ops ∧ RRel ring npid (Ref.run ops)

theorem RInv.snoc {ring ring' : ARing} {npid npid' : Int} {ops : List Op} (h : RInv ring npid ops) (op : Op)
    (hg : Good (Ref.run ops) [op]) (hr : RRel ring' npid' ((Ref.run ops).step op)) : RInv ring' npid' (ops ++ [op]) :=
  ⟨(Ring.refGood_append _ _ _).2 ⟨h.1, hg⟩, by rw [Ring.refRun_snoc]; exact hr⟩

theorem RInv.append {ring : ARing} {npid : Int} {ops : List Op} (h : RInv ring npid ops) (s : SId) (o : Int) :
    RInv (ring ++ [(npid + 1, s, o)]) (npid + 1) (ops ++ [.append (npid + 1) (ringEntry s o)]) :=
  h.snoc _ ⟨h.2.eq.imp_right Int.le_of_eq, ringEntry_not_hole s o, trivial⟩ (h.2.append s o)

theorem RInv.tasks {ring : ARing} {npid : Int} {ops : List Op} (h : RInv ring npid ops) (s : SId)
    (ids : List Int) :
    RInv (ring ++ taskEntries npid s ids) (npid + (ids.length : Int)) (ops ++ taskOps npid s ids) := by
  induction ids generalizing ring npid ops with
  | nil => simpa [taskEntries, taskOps] using h
  | cons o rest ih => simpa [taskEntries, taskOps, Int.add_assoc, Int.add_comm 1] using ih (h.append s o)

theorem RRel.discard {ring : ARing} {npid : Int} {r : Ref} (h : RRel ring npid r) (d : Nat) :
    RRel (ring.drop d) npid (r.step (.discard (d : Int))) := by
  by_cases hd0 : d = 0
  · subst hd0; simpa [Ref.step] using h
  obtain ⟨hout, hcg, hhi, heq, hnp, hlo⟩ := h
  obtain ⟨ho, hl, hh⟩ := Ring.refStep_discard (n := d) hhi (by omega)
  -- `drop` clamps `d` to the length of the ring, as the reference does; of the clamped count only `c ≤ length` matters
  rw [Int.toNat_natCast] at ho hl
  rw [List.drop_eq_drop_min]
  have hc := Nat.min_le_right d ring.length
  generalize min d ring.length = c at *
  refine ⟨?_, hl ▸ contig_drop hcg _, by rw [List.length_drop]; omega, by omega, hnp, by omega⟩
  rw [ho, ← hout, contig_pairs hcg, ← Ring.pairsOf_drop, ← List.map_drop, contig_pairs (contig_drop hcg _)]

theorem ringKey_inj {s s' : SId} : ringKey s = ringKey s' ↔ s = s' := by
  simp [ringKey, Int.ofNat_inj]

theorem ringEntry_key (s : SId) (o : Int) : (ringEntry s o).key = ringKey s := rfl

theorem tasksOf_ringEntries (s : SId) (l : ARing) :
    Ring.tasksOf (ringKey s) (l.map fun e => ringEntry e.2.1 e.2.2) = origsOf s l := by
  unfold Ring.tasksOf origsOf
  rw [List.filter_map, List.map_map]
  congr 1
  exact List.filter_congr fun e _ => by simp [ringEntry_not_hole, ringEntry_key, ringKey_inj, Bool.beq_eq_decide_eq]

theorem expected_other (ring : ARing) (r : Ref) (hout : ring.map ringPair = r.out) (w : Int) (k : Key)
    (hk : ∀ s, k ≠ ringKey s) : r.expected w k = none := by
  unfold Ref.expected
  rw [← hout, List.filter_eq_nil_iff.2, List.map_nil, List.max?_nil]
  intro x hx
  obtain ⟨e, _, rfl⟩ := List.mem_map.1 hx
  simp [ringPair, show ¬ (ringEntry e.2.1 e.2.2).key = k from fun h => hk e.2.1 h.symm]

theorem RRel.expected {ring : ARing} {npid : Int} {r : Ref} (h : RRel ring npid r) (w : Int) (s : SId) :
    aget (aggregate ring w).1 s = r.expected w (ringKey s) := by
  rw [aget_aggregate, contig_takeWhile h.contig, Ring.expected_of_out ((contig_pairs h.contig).symm.trans h.out),
    ← List.map_take, tasksOf_ringEntries]

theorem RRel.expectedCount {ring : ARing} {npid : Int} {r : Ref} (h : RRel ring npid r) (w : Int) :
    (aggregate ring w).2 = r.expectedCount w := by
  simp only [aggregate]
  rw [contig_takeWhile h.contig, List.length_take, Ring.expectedCount_eq h.hi]

end S2S.Routing
