import S2S.Proofs.RoutingFaultFree
import S2S.Proofs.RoutingTightMain
import S2S.Proofs.RoutingLateBase
/-!
C03S: every acknowledgement EVER sent, judged against the CURRENT state.

Fault-free runs.  The C01 invariant `Inv` (`RoutingInvDef`) speaks about the LAST acknowledgement (`lastSentAck`)
only; `Late.LInv` speaks about the whole history `acksSent`.  Its source-side half is `Late.step_srcHist` (`RoutingSrcStep`).
-/
namespace S2S.Routing

/-- every acknowledgement EVER sent on stream `s` covers, among the tasks received on `s` SO FAR, only confirmed ones -/
def Late.HistSafe (σ : State) : Prop :=
  ∀ s, ∀ v ∈ (σ.src s).acksSent, ∀ p ∈ (σ.src s).received, p.1 < v → Confirmed σ s p.1 p.2

structure Late.LInv (σ : State) : Prop where
  hist : ∀ s, Late.SrcHist (σ.src s)
  safe : Late.HistSafe σ

theorem Late.linv_init (ns nt : Nat) : Late.LInv (State.init ns nt) := by
  refine ⟨fun s => ?_, fun s v hv => ?_⟩
  · rw [src_init]
    exact ⟨List.Pairwise.nil, fun _ h => (by cases h), fun _ h => (by cases h), Int.le_refl _⟩
  · rw [src_init] at hv; cases hv

/-- a new acknowledgement is safe by C01 (`Inv`); an old one stays safe because `confirmed` only grows and every newly
    received task lies at or above `lastHigh`, hence at or above every acknowledgement sent so far -/
theorem Late.step_histSafe {c : Cfg} {σ σ' : State} {a : Act} (hI' : Inv σ') (hL : Late.LInv σ)
    (henv : StepEnv σ a) (h : step c σ a = some σ') : Late.HistSafe σ' := by
  intro s v hv p hp hlt
  rcases (AF.step_src h s).mem_acks hv with hold | hl
  · obtain ⟨r, hr, hrecv⟩ := (AF.step_src h s).received_append
    have hp' : p ∈ (σ.src s).received := (List.mem_append.1 (hr ▸ hp)).resolve_right fun hp => by
      obtain ⟨high, rfl⟩ := hrecv p hp
      exact Int.not_lt.2 (Int.le_trans ((hL.hist s).le_lastHigh v hold) (henv.2.1 p hp).2.1) hlt
    exact (Late.step_confirmed h p.2).subset (hL.safe s v hold p hp' hlt)
  · exact (hI'.pair s p.2).last_safe v hl p.1 hp hlt

theorem Late.step_linv {c : Cfg} (hc : c.seedAcks = true) {σ σ' : State} {a : Act} (hI : FaultFree σ) (hL : Late.LInv σ)
    (henv : StepEnv σ a) (hnf : a.isFault = false) (h : step c σ a = some σ') :
    FaultFree σ' ∧ Late.LInv σ' := by
  have hI' : FaultFree σ' := (step_faultFree hc hI henv hnf h).1
  refine ⟨hI', ⟨fun s => ?_, Late.step_histSafe hI'.inv hL henv h⟩⟩
  exact Late.step_srcHist h henv hnf (hL.hist s) (fun m _ => (hI'.inv.src s).last_le m) (hI.inv.src s).inactive

theorem Late.linv_reach {c : Cfg} (hc : c.seedAcks = true) (ns nt : Nat) (acts : List Act)
    (henv : EnvOK c (State.init ns nt) acts) (hnf : NoFaults acts) : Late.LInv (run c (State.init ns nt) acts) :=
  (run_induction_env (P := fun σ => FaultFree σ ∧ Late.LInv σ) (fun h => Late.step_linv hc h.1 h.2)
    ⟨faultFree_init ns nt, Late.linv_init ns nt⟩ henv hnf).2

/-!
Runs WITH faults (stream breaks and re-opens at any position), modulo the recorded findings, on top of the tight C04
invariant `InvT` (`RoutingTightDef`), judged with the current ghost (`acks_safe_tight`: at the step that sends it).

A new acknowledgement is safe by `InvT`; for an old one `confirmed` only grows; `ExcusedT` is monotone for a task that has
been received (`passed` only grows, `received` grows by appending, and `base` changes only when the source stream re-opens —
then EVERY task received so far becomes excused (b)); and a task received later is either a re-sent one or lies at or above
`maxHigh` (`RecvFresh`), while every acknowledgement ever sent is `≤ maxHigh`.
-/

/-- the ghost threaded along a run (the fold `EnvOKT` / `AcksSafeTAlong` perform), next to the state -/
def Late.runT (c : Cfg) : State → GhostT → List Act → State × GhostT
  | σ, γ, [] => (σ, γ)
  | σ, γ, a :: rest => Late.runT c ((step c σ a).getD σ) (γ.next c σ a) rest

theorem Late.runT_fst (c : Cfg) (σ : State) (γ : GhostT) (acts : List Act) :
    (Late.runT c σ γ acts).1 = run c σ acts := by
  induction acts generalizing σ γ with
  | nil => rfl
  | cons a rest ih => rw [Late.runT, run_cons]; exact ih _ _

theorem Late.runT_append (c : Cfg) (σ : State) (γ : GhostT) (pre post : List Act) :
    Late.runT c σ γ (pre ++ post) = Late.runT c (Late.runT c σ γ pre).1 (Late.runT c σ γ pre).2 post := by
  induction pre generalizing σ γ with
  | nil => rfl
  | cons a rest ih => simp only [List.cons_append, Late.runT]; exact ih _ _

theorem Late.excusedT_step {c : Cfg} {σ σ' : State} {γ : GhostT} {a : Act} (h : step c σ a = some σ')
    {s : SId} {p : Int × TId} (hp : p ∈ (σ.src s).received) (he : ExcusedT σ γ s p) :
    ExcusedT σ' (γ.upd σ a) s p := by
  refine he.imp (fun h1 => ?_) (GhostT.upd_passed_mono σ γ a p.2)
  obtain ⟨r, hr, _⟩ := (AF.step_src h s).received_append
  rw [hr, GhostT.upd_g]
  rcases baseOf_upd_cases (σ := σ) (γ := γ.g) a s with e | e <;> rw [e]
  · exact mem_take_append h1
  · rw [List.take_left]; exact hp

structure Late.LInvT (σ : State) (γ : GhostT) : Prop where
  bound : ∀ s, ∀ v ∈ (σ.src s).acksSent, v ≤ γ.g.maxHighOf s
  safe : ∀ s, ∀ v ∈ (σ.src s).acksSent, ∀ p ∈ (σ.src s).received, p.1 < v →
    Confirmed σ s p.1 p.2 ∨ ExcusedT σ γ s p

theorem Late.linvT_init (ns nt : Nat) : Late.LInvT (State.init ns nt) {} := by
  refine ⟨fun s v hv => ?_, fun s v hv => ?_⟩ <;> (rw [src_init] at hv; cases hv)

theorem Late.step_linvT {c : Cfg} {σ σ' : State} {γ : GhostT} {a : Act} (hI' : InvT σ' (γ.upd σ a)) (hL : Late.LInvT σ γ)
    (henv : StepEnvF σ γ.g a)
    (h : step c σ a = some σ') : Late.LInvT σ' (γ.upd σ a) := by
  refine ⟨fun s v hv => ?_, fun s v hv p hp hlt => ?_⟩
  · exact ((AF.step_src h s).mem_acks hv).elim
      (fun hold => Int.le_trans (hL.bound s v hold) (GhostT.upd_g σ γ a ▸ maxHighOf_upd_mono a s)) ((hI'.f.src s).last_le v)
  · rcases (AF.step_src h s).mem_acks hv with hold | hl
    · -- an acknowledgement sent earlier sees only tasks received earlier
      obtain ⟨r, hr, hrecv⟩ := (AF.step_src h s).received_append
      have hp' : p ∈ (σ.src s).received := (List.mem_append.1 (hr ▸ hp)).elim id fun hp => by
        obtain ⟨high, rfl⟩ := hrecv p hp
        exact (henv.2 p hp).resolve_right fun hfresh => Int.not_lt.2 (Int.le_trans (hL.bound s v hold) hfresh) hlt
      exact (hL.safe s v hold p hp' hlt).imp (fun hc => (Late.step_confirmed h p.2).subset hc)
        (Late.excusedT_step h hp')
    · exact hI'.lastAck_safe hl hp hlt

theorem Late.run_linvT {c : Cfg} (hc : c.seedAcks = true) {σ : State} {γ : GhostT} (hI : InvT σ γ) (hL : Late.LInvT σ γ) (acts : List Act)
    (henv : EnvOKT c σ γ acts) :
    InvT (Late.runT c σ γ acts).1 (Late.runT c σ γ acts).2 ∧
    Late.LInvT (Late.runT c σ γ acts).1 (Late.runT c σ γ acts).2 := by
  fun_induction Late.runT c σ γ acts with
  | case1 => exact ⟨hI, hL⟩
  | case2 σ γ a rest ih =>
    suffices h : InvT ((step c σ a).getD σ) (γ.next c σ a) ∧ Late.LInvT ((step c σ a).getD σ) (γ.next c σ a) from
      ih h.1 h.2 henv.2
    cases hstep : step c σ a with
    | none => rw [ghostT_next_none γ hstep]; exact ⟨hI, hL⟩
    | some σ' =>
      rw [ghostT_next_of_step γ hstep]
      have hI' : InvT σ' (γ.upd σ a) := step_invT hc hI henv.1 hstep
      exact ⟨hI', Late.step_linvT hI' hL henv.1 hstep⟩

end S2S.Routing
