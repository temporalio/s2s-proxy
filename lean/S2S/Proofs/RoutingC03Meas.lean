import S2S.Proofs.RoutingBasic
/-!
Termination of `settle`: what `eagerActs` lists, a measure strictly decreased by every eager action, quiescence with
enough fuel, and fuel-independent ("idealised") versions of `settle`, `ackEverything`, `fairRound`.
-/
namespace S2S.Routing

def Act.isEager : Act → Bool
  | .bcastStep _ _ | .deliver _ _ | .take _ | .emit _ | .ackFwd _ _ | .ackFin _ | .rack _
  | .replayStep _ _ | .replayDone _ => true
  | _ => false

theorem eagerActs_isEager {σ : State} {gates : List Bool} {a : Act} (h : a ∈ eagerActs σ gates) :
    a.isEager = true := by
  refine List.all_eq_true.1 ?_ a h
  simp only [eagerActs, List.all_append, List.all_flatMap, Bool.and_eq_true, List.all_eq_true (l := List.range _)]
  refine ⟨⟨fun t _ => ?_, fun s _ => ?_⟩, fun t _ => ?_⟩
  · split <;> simp [List.all_map, Function.comp_def, Act.isEager]
  · split <;> simp [List.all_map, Function.comp_def, Act.isEager]
  · split <;> split <;> simp [List.all_map, Function.comp_def, Act.isEager]

theorem mem_eager_replay {σ : State} {g : List Bool} {t : TId} {todo : List (SId × Nat)} {a : Act}
    (ht : t < σ.targets.length) (h : (σ.tgt t).replayTodo = some todo)
    (ha : a ∈ (todo.map fun p => Act.replayStep t p.1) ++ [Act.replayDone t]) : a ∈ eagerActs σ g := by
  unfold eagerActs
  exact List.mem_append_left _ (List.mem_append_left _
    (List.mem_flatMap.2 ⟨t, List.mem_range.2 ht, by rw [h]; exact ha⟩))

theorem mem_eager_src {σ : State} {g : List Bool} {s : SId} {a : Act} (hs : s < σ.sources.length)
    (ha : a ∈ [Act.rack s] ++ (match (σ.src s).pc with
      | .bcast _ todo => todo.map fun p => Act.bcastStep s p.1
      | .deliver pending => pending.map fun p => Act.deliver s p.1
      | .idle => [])) : a ∈ eagerActs σ g := by
  unfold eagerActs
  exact List.mem_append_left _ (List.mem_append_right _ (List.mem_flatMap.2 ⟨s, List.mem_range.2 hs, ha⟩))

theorem mem_eager_tgt {σ : State} {g : List Bool} {t : TId} {a : Act} (ht : t < σ.targets.length)
    (ha : a ∈ (if g.getD t false then [] else [Act.emit t]) ++ [Act.take t] ++ (match (σ.tgt t).ackPc with
      | .forwarding todo _ _ => (todo.map fun p => Act.ackFwd t p.1) ++ [Act.ackFin t]
      | .idle => [])) : a ∈ eagerActs σ g := by
  unfold eagerActs
  exact List.mem_append_right _ (List.mem_flatMap.2 ⟨t, List.mem_range.2 ht, ha⟩)

theorem firstEnabled_eq_findSome? (c : Cfg) (σ : State) (l : List Act) :
    firstEnabled c σ l = l.findSome? (step c σ) := by
  fun_induction firstEnabled c σ l <;> simp [*]

theorem firstEnabled_some {c : Cfg} {σ σ' : State} {l : List Act} (h : firstEnabled c σ l = some σ') :
    ∃ a ∈ l, step c σ a = some σ' :=
  List.exists_of_findSome?_eq_some (firstEnabled_eq_findSome? c σ l ▸ h)

theorem firstEnabled_none {c : Cfg} {σ : State} {l : List Act} (h : firstEnabled c σ l = none) :
    ∀ a ∈ l, step c σ a = none :=
  List.findSome?_eq_none_iff.1 (firstEnabled_eq_findSome? c σ l ▸ h)

def muPc : RecvPc → Nat
  | .idle => 0
  | .bcast _ todo => 4 * todo.length
  | .deliver pending => 4 * pending.length

def muS (x : Source) : Nat := x.ackChan.length + muPc x.pc

def muAck : AckPc → Nat
  | .idle => 0
  | .forwarding todo _ _ => 2 * todo.length + 1

def muReplay : Option (List (SId × Nat)) → Nat
  | none => 0
  | some todo => 4 * todo.length + 1

def muT (tg : Target) : Nat :=
  muReplay tg.replayTodo + 3 * tg.sendChan.length + (if tg.holding.isSome then 1 else 0) + muAck tg.ackPc

/-- what is queued, weighted by how far it still has to travel: an entry of a hand-over or replay list (4) becomes a
    message in a channel (3), then the message in hand (1); an entry of a forwarding list (2) becomes an entry of an ack
    channel (1); the `+ 1` of a list pays for the step that closes it -/
def mu (σ : State) : Nat := (σ.sources.map muS).sum + (σ.targets.map muT).sum

/-- beyond the end nothing changes, and the default weighs nothing -/
theorem sum_map_set {α} (f : α → Nat) (l : List α) (i : Nat) (x d : α) (hd : f d = 0) :
    ((l.set i x).map f).sum + f (l.getD i d) ≤ (l.map f).sum + f x := by
  induction l generalizing i with
  | nil => simp [hd]
  | cons a r ih =>
    cases i with
    | zero => simp only [List.set_cons_zero, List.map_cons, List.sum_cons, List.getD_cons_zero]; omega
    | succ i =>
      have := ih i
      simp only [List.set_cons_succ, List.map_cons, List.sum_cons, List.getD_cons_succ]; omega

theorem mu_setSrc (σ : State) (s : SId) (x : Source) :
    mu (σ.setSrc s x) + muS (σ.src s) ≤ mu σ + muS x := by
  have := sum_map_set muS σ.sources s x {} rfl
  unfold mu State.setSrc State.src
  simp only
  omega

theorem mu_setTgt (σ : State) (t : TId) (y : Target) :
    mu (σ.setTgt t y) + muT (σ.tgt t) ≤ mu σ + muT y := by
  have := sum_map_set muT σ.targets t y {} rfl
  unfold mu State.setTgt State.tgt
  simp only
  omega

theorem muPc_drop {α} {mk : List (TId × α) → RecvPc} (hmk : ∀ l, muPc (mk l) = 4 * l.length) {todo : List (TId × α)}
    {t : TId} {v : α} (h : aget todo t = some v) : muPc (pcDrop mk todo t) + 4 ≤ muPc (mk todo) := by
  have : (todo.filter (fun p => p.1 != t)).length < todo.length := filter_lt_of_aget h
  rw [hmk]
  refine pcDrop_ind (P := fun pc => muPc pc + 4 ≤ 4 * todo.length) ?_ fun _ => ?_
  · show 0 + 4 ≤ _; omega
  · rw [hmk]; omega

theorem muT_push (tg : Target) (m : Msg) : muT (tg.push m) = muT tg + 3 := by
  unfold Target.push muT
  simp only [List.length_append, List.length_singleton]; omega

theorem mu_lt_setSrc {σ : State} {s : SId} {x : Source} (h : muS x < muS (σ.src s)) :
    mu (σ.setSrc s x) < mu σ := by
  have := mu_setSrc σ s x; omega

theorem mu_lt_setTgt {σ : State} {t : TId} {y : Target} (h : muT y < muT (σ.tgt t)) :
    mu (σ.setTgt t y) < mu σ := by
  have := mu_setTgt σ t y; omega

theorem mu_lt_setSrcTgt {σ : State} {s : SId} {x : Source} {t : TId} {y : Target}
    (h : muS x + muT y < muS (σ.src s) + muT (σ.tgt t)) : mu ((σ.setSrc s x).setTgt t y) < mu σ := by
  have h1 := mu_setSrc σ s x
  have h2 := mu_setTgt (σ.setSrc s x) t y
  rw [tgt_setSrc] at h2
  omega

theorem step_eager_mu {c : Cfg} {σ σ' : State} {a : Act} (ha : a.isEager = true)
    (h : step c σ a = some σ') : mu σ' < mu σ := by
  cases Step.of_step h with
  | @bcastSend s t high _ _ hpc hinc =>
    have := muPc_drop (mk := .bcast high) (fun _ => rfl) hinc
    apply mu_lt_setSrcTgt
    simp only [muS, muT_push, hpc]
    omega
  | @bcastDrop s t high _ _ hpc hinc =>
    have := muPc_drop (mk := .bcast high) (fun _ => rfl) hinc
    apply mu_lt_setSrc
    simp only [muS, hpc]
    omega
  | deliver s t hpc hids =>
    have := muPc_drop (mk := .deliver) (fun _ => rfl) hids
    apply mu_lt_setSrcTgt
    simp only [muS, muT_push, hpc]
    omega
  | @take _ m _ _ hh hch =>
    apply mu_lt_setTgt
    cases m <;> simp [process, muT, hh, hch] <;> omega
  | emit _ he => apply mu_lt_setTgt; simp [muT, he]
  | @ackFwd t s todo _ _ _ hpc hv =>
    have : (todo.filter fun p => p.1 != s).length < todo.length := filter_lt_of_aget hv
    rw [setTgt_setSrc_comm]
    apply mu_lt_setSrcTgt
    simp only [muS, muT, hpc, muAck, List.length_append, List.length_singleton]; omega
  | ackFin _ hpc => apply mu_lt_setTgt; simp only [muT, hpc, muAck]; omega
  | rackQuiet _ _ hch | rackSend _ _ hch => apply mu_lt_setSrc; simp [muS, hch]
  | @replaySend t s todo _ _ htodo hinc =>
    have : (todo.filter fun p => p.1 != s).length < todo.length := filter_lt_of_aget hinc
    apply mu_lt_setTgt
    simp only [muT, Target.push, htodo, muReplay, List.length_append, List.length_singleton]; omega
  | @replaySkip t s todo _ htodo hinc =>
    have : (todo.filter fun p => p.1 != s).length < todo.length := filter_lt_of_aget hinc
    apply mu_lt_setTgt
    simp only [muT, htodo, muReplay]; omega
  | replayDone _ htodo => apply mu_lt_setTgt; simp [muT, htodo, muReplay]
  | _ => cases ha

theorem settle_of_quiescent {c : Cfg} {g : List Bool} {σ : State} (h : Quiescent c g σ) (fuel : Nat) :
    settle c g fuel σ = σ := by
  cases fuel with
  | zero => rfl
  | succ n => unfold Quiescent at h; simp [settle, h]

theorem firstEnabled_mu {c : Cfg} {g : List Bool} {σ σ' : State}
    (h : firstEnabled c σ (eagerActs σ g) = some σ') : mu σ' < mu σ := by
  obtain ⟨a, ha, hs⟩ := firstEnabled_some h
  exact step_eager_mu (eagerActs_isEager ha) hs

theorem settle_quiescent {c : Cfg} {g : List Bool} (fuel : Nat) (σ : State) (h : mu σ ≤ fuel) :
    Quiescent c g (settle c g fuel σ) := by
  fun_induction settle c g fuel σ with
  | case1 σ => exact Option.eq_none_iff_forall_ne_some.2 fun σ' hf => by have := firstEnabled_mu hf; omega
  | case2 fuel σ σ' hf ih => have := firstEnabled_mu hf; exact ih (by omega)
  | case3 fuel σ hf => exact hf

theorem settle_add {c : Cfg} {g : List Bool} (f1 f2 : Nat) (σ : State) :
    settle c g (f1 + f2) σ = settle c g f2 (settle c g f1 σ) := by
  fun_induction settle c g f1 σ with
  | case1 σ => rw [Nat.zero_add]
  | case2 fuel σ σ' hf ih => rw [Nat.succ_add, settle, hf]; exact ih
  | case3 fuel σ hf => rw [Nat.succ_add, settle, hf]; exact (settle_of_quiescent hf f2).symm

/-- `settle` run to Quiescence: `mu σ` is fuel enough (`settleQ_quiescent`), and more fuel changes nothing
    (`settle_eq_settleQ`).  The other `…Q` below are `ackStep`, `ackEverything`, `fairRound` with `settleQ` for `settle` -/
def settleQ (c : Cfg) (σ : State) : State := settle c [] (mu σ) σ

theorem settleQ_quiescent (c : Cfg) (σ : State) : Quiescent c [] (settleQ c σ) :=
  settle_quiescent (mu σ) σ (Nat.le_refl _)

theorem settle_eq_settleQ {c : Cfg} {σ : State} {fuel : Nat} (h : mu σ ≤ fuel) :
    settle c [] fuel σ = settleQ c σ := by
  rw [← Nat.add_sub_cancel' h, settle_add]
  exact settle_of_quiescent (settleQ_quiescent c σ) _

theorem settle_ind {c : Cfg} {g : List Bool} {P : State → Prop}
    (hP : ∀ {σ a σ'}, P σ → a.isEager = true → step c σ a = some σ' → P σ')
    (fuel : Nat) (σ : State) (h : P σ) : P (settle c g fuel σ) := by
  fun_induction settle c g fuel σ with
  | case1 | case3 => exact h
  | case2 fuel σ σ' hf ih =>
    obtain ⟨a, ha, hs⟩ := firstEnabled_some hf
    exact ih (hP h (eagerActs_isEager ha) hs)

/-- the function `ackEverything` folds, which has no name there; `fairRound_eq` needs `ackEverything` to unfold to this
    fold -/
def ackStep (c : Cfg) (fuel : Nat) (σ : State) (t : TId) : State :=
  match (σ.tgt t).stream.getLast? with
  | some e => settle c [] fuel ((step c σ (.tack t e.high)).getD σ)
  | none => σ

def ackStepQ (c : Cfg) (σ : State) (t : TId) : State :=
  match (σ.tgt t).stream.getLast? with
  | some e => settleQ c ((step c σ (.tack t e.high)).getD σ)
  | none => σ

def ackEvQ (c : Cfg) (σ : State) : State := (List.range σ.targets.length).foldl (ackStepQ c) σ

def roundQ (c : Cfg) (s : SId) (H : Int) (σ : State) : State :=
  ackEvQ c (settleQ c ((step c σ (.recv s [] H)).getD σ))

theorem ackStep_eq (c : Cfg) (σ : State) (t : TId) : ∃ F, ∀ fuel, F ≤ fuel → ackStep c fuel σ t = ackStepQ c σ t := by
  unfold ackStep ackStepQ
  split
  · exact ⟨mu _, fun _ hf => settle_eq_settleQ hf⟩
  · exact ⟨0, fun _ _ => rfl⟩

theorem foldl_ackStep_eq (c : Cfg) (l : List TId) (σ : State) : ∃ F, ∀ fuel, F ≤ fuel →
    l.foldl (ackStep c fuel) σ = l.foldl (ackStepQ c) σ := by
  induction l generalizing σ with
  | nil => exact ⟨0, fun _ _ => List.foldl_nil⟩
  | cons t r ih =>
    obtain ⟨F1, h1⟩ := ackStep_eq c σ t
    obtain ⟨F2, h2⟩ := ih (ackStepQ c σ t)
    refine ⟨max F1 F2, fun fuel hf => ?_⟩
    rw [List.foldl_cons, List.foldl_cons, h1 fuel (Nat.max_le.1 hf).1]
    exact h2 fuel (Nat.max_le.1 hf).2

theorem fairRound_eq (c : Cfg) (s : SId) (H : Int) (σ : State) :
    ∃ F, ∀ fuel, F ≤ fuel → fairRound c fuel s H σ = roundQ c s H σ := by
  obtain ⟨F, hF⟩ := foldl_ackStep_eq c (List.range (settleQ c ((step c σ (.recv s [] H)).getD σ)).targets.length)
    (settleQ c ((step c σ (.recv s [] H)).getD σ))
  refine ⟨max F (mu ((step c σ (.recv s [] H)).getD σ)), fun fuel hf => ?_⟩
  unfold fairRound roundQ
  rw [settle_eq_settleQ (Nat.max_le.1 hf).2]
  exact hF fuel (Nat.max_le.1 hf).1

end S2S.Routing
