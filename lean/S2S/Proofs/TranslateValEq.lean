import S2S.Spec.TranslateVal
import S2S.Proofs.NameMap
/-! Base of the value-level chain: `Val.ind2` proves a property of values and one of lists of values together; what the
    two callbacks that do something make of a string and of a blob, by cases (`nsStrStep_cases`, `blobResult_cases`).
    The equations of `visitNs` constructor by constructor record what the definitions compute; the chain itself goes
    through `nsStep_*` (TranslateValCtx). -/
namespace S2S.TranslateVal
open S2S.Translate S2S.NameMap

section
variable {α : Type}

/-- `cons` also offers `Q v.kids` (the head's own children); the proofs of the chain do without it -/
theorem Val.ind2 {P : Val α → Prop} {Q : List (Val α) → Prop}
    (str : ∀ s, P (.str s)) (tok : ∀ t, P (.tok t)) (payload : ∀ t, P (.payload t)) (nil : ∀ k, P (.nil k))
    (msg : ∀ ty fs, Q fs → P (.msg ty fs)) (list : ∀ l, Q l → P (.list l)) (map : ∀ l, Q l → P (.map l))
    (kv : ∀ k v, P v → P (.kv k v)) (blobRaw : ∀ e t, P (.blobRaw e t))
    (blobEv : ∀ re evs, Q evs → P (.blobEv re evs))
    (nilL : Q []) (cons : ∀ v vs, P v → Q v.kids → Q vs → Q (v :: vs)) :
    (∀ v, P v) ∧ (∀ l, Q l) := by
  have h : ∀ v : Val α, P v ∧ Q v.kids := by
    intro v
    refine Val.rec (motive_1 := fun v => P v ∧ Q v.kids) (motive_2 := Q) ?_ ?_ ?_ ?_ ?_ ?_ ?_ ?_ ?_ ?_ ?_ ?_ v
    · intro s; exact ⟨str s, nilL⟩
    · intro t; exact ⟨tok t, nilL⟩
    · intro t; exact ⟨payload t, nilL⟩
    · intro k; exact ⟨nil k, nilL⟩
    · intro ty fs h; exact ⟨msg ty fs h, h⟩
    · intro l h; exact ⟨list l h, h⟩
    · intro l h; exact ⟨map l h, h⟩
    · intro k v h; exact ⟨kv k v h.1, nilL⟩
    · intro e t; exact ⟨blobRaw e t, nilL⟩
    · intro re evs h; exact ⟨blobEv re evs h, h⟩
    · exact nilL
    · intro v vs h1 h2; exact cons v vs h1.1 h1.2 h2
  refine ⟨fun v => (h v).1, ?_⟩
  intro l
  induction l with
  | nil => exact nilL
  | cons v vs ih => exact cons v vs (h v).1 (h v).2 ih

theorem unflagL_cons (v : Val α) (vs : List (Val α)) : unflagL (v :: vs) = unflag v :: unflagL vs := rfl
theorem unflag_msg (ty : Nat) (fs : List (Val α)) : unflag (.msg ty fs) = .msg ty (unflagL fs) := rfl
theorem unflag_list (l : List (Val α)) : unflag (.list l) = .list (unflagL l) := rfl
theorem unflag_map (l : List (Val α)) : unflag (.map l) = .map (unflagL l) := rfl
theorem unflag_kv (k : α) (v : Val α) : unflag (.kv k v) = .kv k (unflag v) := rfl
theorem unflag_blobEv (re : Bool) (l : List (Val α)) : unflag (.blobEv re l) = .blobEv false (unflagL l) := rfl

end

variable {α : Type} [DecidableEq α] {g : Graph} {tb : Tables} {X : Ext α} {mt : α → α × Bool}

variable (g) in
/-- the `mode` that `visitNs` computes for a struct of type `ty` -/
def nsMode (ty : Nat) : FMode := if ty == g.historyType then .hist else if ty == g.namespaceInfo then .nsInfo else .plain

variable (g tb mt) in
/-- what `visitNsFields` does to a string field: the `.nsInfo` branch when `ni`, `visitNs (some f)` otherwise -/
def nsStrStep (ni : Bool) (f : FieldD) (s : α) : α × Bool :=
  let a : α × Bool := if ni && f.go == g.nameField && f.goString then app mt s else (s, false)
  let b : α × Bool := if isNsLeafField tb f then app mt a.1 else (a.1, false)
  (b.1, a.2 || b.2)

variable (g tb X mt) in
/-- `visitNs` / `visitNsItems .blobs` on a decoded blob in a recognised blob field -/
def nsBlobStep (re : Bool) (evs : List (Val α)) : Val α × Bool :=
  blobResult re evs (listSkippable g tb X evs) (visitNsItems g tb X mt .plain evs)

theorem visitNs_msg (fc : Option FieldD) (ty : Nat) (fs : List (Val α)) :
    visitNs g tb X mt fc (.msg ty fs) =
      (.msg ty (visitNsFields g tb X mt (nsMode g ty) (g.typeD ty).fields fs).1,
       (visitNsFields g tb X mt (nsMode g ty) (g.typeD ty).fields fs).2) := by
  rfl
theorem visitNs_list (fc : Option FieldD) (l : List (Val α)) :
    visitNs g tb X mt fc (.list l) =
      (.list (visitNsItems g tb X mt (if blobCtx tb fc then .blobs else .plain) l).1,
       (visitNsItems g tb X mt (if blobCtx tb fc then .blobs else .plain) l).2) := by
  rfl
theorem visitNs_map (fc : Option FieldD) (l : List (Val α)) :
    visitNs g tb X mt fc (.map l) = (.map (visitNsItems g tb X mt .plain l).1, (visitNsItems g tb X mt .plain l).2) := by
  rfl
theorem visitNs_kv (fc : Option FieldD) (k : α) (v : Val α) :
    visitNs g tb X mt fc (.kv k v) = (.kv k (visitNs g tb X mt none v).1, (visitNs g tb X mt none v).2) := by
  rfl
theorem visitNs_str (fc : Option FieldD) (s : α) :
    visitNs g tb X mt fc (.str s) =
      match fc with
      | some f => if isNsLeafField tb f then ((Val.str (app mt s).1), (app mt s).2) else (.str s, false)
      | none => (.str s, false) := by
  cases fc <;> rfl
theorem visitNsFields_nil (mode : FMode) (vs : List (Val α)) : visitNsFields g tb X mt mode [] vs = (vs, false) := by
  cases vs <;> rfl
theorem visitNsFields_nil' (mode : FMode) (fds : List FieldD) : visitNsFields g tb X mt mode fds [] = ([], false) := by
  cases fds <;> rfl
theorem fieldVal_cons {β : Type} (name : Nat) (f : FieldD) (fds : List FieldD) (v : Val β) (vs : List (Val β)) :
    fieldVal name (f :: fds) (v :: vs) = if f.go == name then some v else fieldVal name fds vs := rfl
section
variable (g tb X mt)
theorem visitNs_tok (fc : Option FieldD) (t : α) : visitNs g tb X mt fc (.tok t) = (.tok t, false) := rfl
theorem visitNs_payload (fc : Option FieldD) (t : α) : visitNs g tb X mt fc (.payload t) = (.payload t, false) := rfl
theorem visitNs_nil (fc : Option FieldD) (k : NilK) : visitNs g tb X mt fc (.nil k) = (.nil k, false) := rfl
theorem visitNs_blobRaw (fc : Option FieldD) (e : Bool) (t : α) : visitNs g tb X mt fc (.blobRaw e t) = (.blobRaw e t, false) := rfl
theorem visitNsItems_nil (mode : IMode) : visitNsItems g tb X mt mode [] = ([], false) := rfl
end

section
omit [DecidableEq α]

theorem app_fst_of_unmatched (s : α) (h : (app mt s).2 = false) : (app mt s).1 = s := by
  unfold app at h ⊢
  split <;> simp_all

variable (g tb mt) in
/-- the third case: `Name` of a NamespaceInfo, when `Name` is also one of the namespace field names, goes through the
    matcher twice -/
theorem nsStrStep_cases (ni : Bool) (f : FieldD) (s : α) :
    (nsLeafOf g tb ni f = false ∧ nsStrStep g tb mt ni f s = (s, false)) ∨
    (nsLeafOf g tb ni f = true ∧ nsStrStep g tb mt ni f s = app mt s) ∨
    (nsLeafOf g tb ni f = true ∧ (f.go == g.nameField) = true ∧ isNsLeafField tb f = true ∧
      nsStrStep g tb mt ni f s = ((app mt (app mt s).1).1, (app mt s).2 || (app mt (app mt s).1).2)) := by
  unfold nsStrStep nsLeafOf
  cases h1 : (ni && f.go == g.nameField && f.goString) <;> cases h2 : isNsLeafField tb f
  · exact Or.inl ⟨rfl, rfl⟩
  · exact Or.inr (Or.inl ⟨rfl, rfl⟩)
  · exact Or.inr (Or.inl ⟨rfl, Prod.ext rfl (Bool.or_false _)⟩)
  · simp only [Bool.and_eq_true] at h1
    exact Or.inr (Or.inr ⟨rfl, h1.1.2, rfl, rfl⟩)

theorem nsStrStep_unmatched (ni : Bool) (f : FieldD) (s : α) (h : (nsStrStep g tb mt ni f s).2 = false) :
    (nsStrStep g tb mt ni f s).1 = s := by
  rcases nsStrStep_cases g tb mt ni f s with ⟨_, e⟩ | ⟨_, e⟩ | ⟨_, _, _, e⟩ <;> rw [e] at h ⊢
  · exact app_fst_of_unmatched s h
  · simp only [Bool.or_eq_false_iff] at h
    have e1 := app_fst_of_unmatched s h.1
    rw [e1] at h ⊢
    exact e1

theorem nsStrStep_snd (ni : Bool) (f : FieldD) (s : α)
    (h : nsLeafOf g tb ni f = true → (app mt s).2 = false) : (nsStrStep g tb mt ni f s).2 = false := by
  rcases nsStrStep_cases g tb mt ni f s with ⟨_, e⟩ | ⟨hl, e⟩ | ⟨hl, _, _, e⟩ <;> rw [e]
  · exact h hl
  · show ((app mt s).2 || (app mt (app mt s).1).2) = false
    rw [app_fst_of_unmatched s (h hl), h hl]; rfl

variable (g tb) in
/-- `Name` is not itself one of the namespace field names: NamespaceInfo.Name is handled once (by type) -/
def NameOnce : Prop := ∀ f : FieldD, (f.go == g.nameField) = true → isNsLeafField tb f = false

theorem nameOnce_of (h : tb.ns.contains g.nameField = false) : NameOnce g tb := by
  intro f hf
  rw [isNsLeafField, eq_of_beq hf, h, Bool.and_false, Bool.false_and]

theorem nsStrStep_eq (hN : NameOnce g tb) (ni : Bool) (f : FieldD) (s : α) :
    nsStrStep g tb mt ni f s = if nsLeafOf g tb ni f then app mt s else (s, false) := by
  rcases nsStrStep_cases g tb mt ni f s with ⟨hl, e⟩ | ⟨hl, e⟩ | ⟨_, hf, hl, _⟩
  · rw [e, hl]; rfl
  · rw [e, hl]; rfl
  · rw [hN f hf] at hl; cases hl

theorem nsStrStep_names (hN : NameOnce g tb) (ni : Bool) (f : FieldD) (s : α) :
    (if nsLeafOf g tb ni f then [(nsStrStep g tb mt ni f s).1] else []) =
      (if nsLeafOf g tb ni f then [s] else []).map (fun s => (app mt s).1) := by
  rw [nsStrStep_eq hN]
  cases nsLeafOf g tb ni f <;> rfl

theorem nsStrStep_roundtrip {mt' : α → α × Bool} (hN : NameOnce g tb) (ni : Bool) (f : FieldD) (s : α)
    (h : nsLeafOf g tb ni f = true → (app mt' (app mt s).1).1 = s) :
    (nsStrStep g tb mt' ni f (nsStrStep g tb mt ni f s).1).1 = s := by
  rw [nsStrStep_eq hN, nsStrStep_eq hN]
  cases hl : nsLeafOf g tb ni f with
  | true => exact h hl
  | false => rfl

theorem blobResult_cases (re : Bool) (evs : List (Val α)) (skip : Bool) (r : List (Val α) × Bool) :
    (blobResult re evs skip r = (.blobEv re evs, false) ∧ (skip = true ∨ r.2 = false)) ∨
    (blobResult re evs skip r = (.blobEv true r.1, true) ∧ skip = false ∧ r.2 = true) := by
  unfold blobResult
  cases skip <;> cases h : r.2 <;> simp

theorem blobResult_unmatched {re : Bool} {evs : List (Val α)} {skip : Bool} {r : List (Val α) × Bool}
    (h : (blobResult re evs skip r).2 = false) : (blobResult re evs skip r).1 = .blobEv re evs := by
  rcases blobResult_cases re evs skip r with ⟨e, _⟩ | ⟨e, _⟩ <;> rw [e] at h ⊢
  cases h

theorem blobResult_snd {re : Bool} {evs : List (Val α)} {skip : Bool} {r : List (Val α) × Bool}
    (h : skip = false → r.2 = false) : (blobResult re evs skip r).2 = false := by
  rcases blobResult_cases re evs skip r with ⟨e, _⟩ | ⟨e, h1, h2⟩
  · rw [e]
  · rw [h h1] at h2; cases h2

theorem blobResult_fst {re : Bool} {evs : List (Val α)} {r : List (Val α) × Bool}
    (h : r.2 = false → r.1 = evs) : ∃ re', (blobResult re evs false r).1 = .blobEv re' r.1 := by
  rcases blobResult_cases re evs false r with ⟨e, hs⟩ | ⟨e, -, -⟩
  · exact ⟨re, by rw [e, h (hs.resolve_left nofun)]⟩
  · exact ⟨true, by rw [e]⟩

end

theorem visitNs_str_some (f : FieldD) (s : α) :
    visitNs g tb X mt (some f) (.str s) = (.str (nsStrStep g tb mt false f s).1, (nsStrStep g tb mt false f s).2) := by
  rw [visitNs_str]
  unfold nsStrStep
  by_cases h : isNsLeafField tb f = true <;> simp [h]

theorem app_look (m : List (α × α)) (s : α) : app (look m) s = look m s := by
  unfold app look
  cases lookup m s <;> rfl

theorem look_fst (m : List (α × α)) (s : α) : (look m s).1 = translateName m s := by
  unfold look translateName
  cases lookup m s <;> rfl

theorem look_snd_false (m : List (α × α)) (s : α) (h : ∀ p ∈ m, p.1 ≠ s) : (look m s).2 = false := by
  unfold look
  rw [lookup_none m s h]

end S2S.TranslateVal
