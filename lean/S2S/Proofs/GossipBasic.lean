import S2S.Model.Gossip
import S2S.Proofs.Run
/-! Association-list and frame lemmas for the gossip model (C09), the composite actions by their halves, the actions
that write no table of remote states and send no snapshot (`Quiet`, `step_quiet`), and `run` (`run_induct`). -/
namespace S2S.Gossip

theorem aget_cons {α} (q : Nat × α) (t : List (Nat × α)) (k' : Nat) :
    aget (q :: t) k' = if q.1 = k' then some q.2 else aget t k' := by
  by_cases h : q.1 = k' <;> simp [aget, h]

theorem aget_aerase {α} (l : List (Nat × α)) (k k' : Nat) :
    aget (aerase l k) k' = if k' = k then none else aget l k' := by
  unfold aget aerase
  rw [List.find?_filter]
  split
  · next h => simp [h]
  · next h =>
    congr 2; funext p
    by_cases e : p.1 = k' <;> simp [e, h]

theorem aget_aset {α} (l : List (Nat × α)) (k k' : Nat) (v : α) :
    aget (aset l k v) k' = if k' = k then some v else aget l k' := by
  by_cases hk : k' = k <;> simp [aset, aget_cons, aget_aerase, hk, Ne.symm]

@[simp] theorem setNode_node (σ : State) (n : NodeId) (x : Node) (m : NodeId) :
    (σ.setNode n x).node m = if m = n then x else σ.node m := rfl

@[simp] theorem setNode_net (σ : State) (n x) : (σ.setNode n x).net = σ.net := rfl
@[simp] theorem setNode_clock (σ : State) (n x) : (σ.setNode n x).clock = σ.clock := rfl
@[simp] theorem setNode_adds (σ : State) (n x) : (σ.setNode n x).adds = σ.adds := rfl
@[simp] theorem setNode_claims (σ : State) (n x) : (σ.setNode n x).claims = σ.claims := rfl
@[simp] theorem setNode_evicted (σ : State) (n x) : (σ.setNode n x).evicted = σ.evicted := rfl
@[simp] theorem setNode_ended (σ : State) (n x) : (σ.setNode n x).ended = σ.ended := rfl
@[simp] theorem setNode_emitted (σ : State) (n x) : (σ.setNode n x).emitted = σ.emitted := rfl
@[simp] theorem setNode_delivered (σ : State) (n x) : (σ.setNode n x).delivered = σ.delivered := rfl

@[simp] theorem send_node (σ : State) (l) : (σ.send l).node = σ.node := rfl
@[simp] theorem send_net (σ : State) (l) : (σ.send l).net = σ.net ++ l := rfl
@[simp] theorem send_clock (σ : State) (l) : (σ.send l).clock = σ.clock := rfl
@[simp] theorem send_adds (σ : State) (l) : (σ.send l).adds = σ.adds := rfl
@[simp] theorem send_claims (σ : State) (l) : (σ.send l).claims = σ.claims := rfl
@[simp] theorem send_evicted (σ : State) (l) : (σ.send l).evicted = σ.evicted := rfl
@[simp] theorem send_ended (σ : State) (l) : (σ.send l).ended = σ.ended := rfl
@[simp] theorem send_emitted (σ : State) (l) : (σ.send l).emitted = σ.emitted ++ l := rfl
@[simp] theorem send_delivered (σ : State) (l) : (σ.send l).delivered = σ.delivered := rfl

theorem mem_send {σ : State} {items : List Item} {x : Item}
    (h : x ∈ (σ.send items).net ∨ x ∈ (σ.send items).delivered) : (x ∈ σ.net ∨ x ∈ σ.delivered) ∨ x ∈ items :=
  h.elim (fun h => (List.mem_append.1 h).elim (fun h => .inl (.inl h)) .inr) fun h => .inl (.inr h)

theorem mem_emit {kind n s t x it} (h : it ∈ emit kind n s t x) :
    ∃ d, d ≠ n ∧ it = Item.ann kind n s t d := by
  unfold emit at h
  simp only [List.mem_map, List.mem_filter] at h
  obtain ⟨d, ⟨_, hd⟩, rfl⟩ := h
  exact ⟨d, by simpa using hd, rfl⟩

def addNode (x : Node) (s : ShardId) (c : Time) (id : Nat) : Node :=
  { x with locals := aset x.locals s c, pending := x.pending ++ [(s, c)], streams := aset x.streams s id }
def pendNode (x : Node) (p : ShardId × Time) : Node := { x with pending := x.pending.erase p }
def streamNode (x : Node) (s : ShardId) : Node := { x with streams := aerase x.streams s }

@[simp] theorem addNode_locals (x s c id) : (addNode x s c id).locals = aset x.locals s c := rfl
@[simp] theorem addNode_pending (x s c id) : (addNode x s c id).pending = x.pending ++ [(s, c)] := rfl
@[simp] theorem pendNode_locals (x p) : (pendNode x p).locals = x.locals := rfl
@[simp] theorem pendNode_pending (x p) : (pendNode x p).pending = x.pending.erase p := rfl
@[simp] theorem streamNode_locals (x s) : (streamNode x s).locals = x.locals := rfl
@[simp] theorem streamNode_pending (x s) : (streamNode x s).pending = x.pending := rfl

theorem step_add (cfg : Cfg) (σ : State) (n s) :
    step cfg σ (.add n s) = { σ.setNode n (addNode (σ.node n) s σ.clock σ.adds.length) with adds := (n, s, σ.clock) :: σ.adds } := rfl

/-- `UnregisterShard` from the stream's own exit path, recorded -/
def endStream (σ : State) (n : NodeId) (s : ShardId) (c : Time) : State :=
  if aget (σ.node n).locals s = some c then { unregister σ n s c with ended := (n, s, c) :: σ.ended } else σ

/-- `RemoveRemoteSendChan`: only the stream's own channel -/
def dropChan (σ : State) (n : NodeId) (s : ShardId) (id : Nat) : State :=
  if aget (σ.node n).streams s = some id then σ.setNode n (streamNode (σ.node n) s) else σ

theorem step_streamEnd (cfg : Cfg) (σ : State) (n s c id) :
    step cfg σ (.streamEnd n s c id) = dropChan (endStream σ n s c) n s id := rfl

/-- the bookkeeping half of a delivery: the item leaves the net (unless kept) and is recorded -/
def bookSt (σ : State) (it : Item) (keep : Bool) : State :=
  { σ with net := if keep then σ.net else σ.net.erase it, delivered := it :: σ.delivered }

theorem mem_net_bookSt {σ : State} {it x : Item} {keep : Bool} (h : x ∈ (bookSt σ it keep).net) : x ∈ σ.net := by
  cases keep
  · exact List.mem_of_mem_erase h
  · exact h

theorem mem_bookSt {σ : State} {it x : Item} {keep : Bool} (hin : it ∈ σ.net) :
    x ∈ (bookSt σ it keep).net ∨ x ∈ (bookSt σ it keep).delivered ↔ x ∈ σ.net ∨ x ∈ σ.delivered := by
  by_cases e : x = it <;> cases keep <;> simp_all [bookSt, List.mem_erase_of_ne]

/-- the addressee's half of a delivery -/
def recv (σ : State) : Item → State
  | .ann kind _ s t dst => notifyMsg σ kind s t dst
  | .snap src tbl dst => mergeRemote σ src tbl dst

/-- forced unregistration by a newer announcement, with the reason recorded -/
def evictSt (σ : State) (dst : NodeId) (s : ShardId) (c t : Time) : State :=
  { unregister σ dst s c with evicted := (dst, s, c, t) :: σ.evicted }

theorem step_deliver (cfg : Cfg) (σ : State) (it keep) :
    step cfg σ (.deliver it keep) = if it ∈ σ.net then recv (bookSt σ it keep) it else σ := by
  cases it <;> rfl

/-- the transition neither writes any node's table of remote states nor puts a snapshot in flight -/
structure Quiet (σ σ' : State) : Prop where
  remote : ∀ m, (σ'.node m).remote = (σ.node m).remote
  snaps : ∀ n tbl m, Item.snap n tbl m ∈ σ'.net → Item.snap n tbl m ∈ σ.net

theorem Quiet.refl (σ : State) : Quiet σ σ := ⟨fun _ => rfl, fun _ _ _ h => h⟩

theorem Quiet.trans {σ σ' σ'' : State} (h : Quiet σ σ') (h' : Quiet σ' σ'') : Quiet σ σ'' :=
  ⟨fun m => (h'.remote m).trans (h.remote m), fun n t m x => h.snaps n t m (h'.snaps n t m x)⟩

/-- only `node` and `net` matter -/
theorem Quiet.of_eq {σ σ' σ'' : State} (h : Quiet σ σ') (hn : σ''.node = σ'.node) (hnet : σ''.net = σ'.net) :
    Quiet σ σ'' :=
  ⟨fun m => by rw [hn]; exact h.remote m, fun n t m x => h.snaps n t m (hnet ▸ x)⟩

theorem Quiet.setNode (σ : State) (n : NodeId) (x : Node) (h : x.remote = (σ.node n).remote) : Quiet σ (σ.setNode n x) :=
  ⟨fun m => by rw [setNode_node]; split <;> simp_all, fun _ _ _ h => h⟩

/-- announcements are not snapshots -/
theorem Quiet.emit (σ : State) (kind n s t x) : Quiet σ (σ.send (emit kind n s t x)) :=
  ⟨fun _ => rfl, fun _ _ _ h => (List.mem_append.1 h).elim id fun h => by obtain ⟨_, _, e⟩ := mem_emit h; cases e⟩

theorem Quiet.unregister (σ : State) (n s c) : Quiet σ (unregister σ n s c) := by
  simp only [S2S.Gossip.unregister]; split
  · exact (Quiet.setNode σ n { σ.node n with locals := aerase (σ.node n).locals s } rfl).trans (Quiet.emit ..)
  · exact .refl _

theorem Quiet.notifyMsg (σ : State) (kind s t dst) : Quiet σ (notifyMsg σ kind s t dst) := by
  fun_cases S2S.Gossip.notifyMsg σ kind s t dst
  · exact .refl _
  · exact (Quiet.unregister ..).of_eq rfl rfl
  · exact .refl _
  · exact .refl _

theorem Quiet.endStream (σ : State) (n s c) : Quiet σ (endStream σ n s c) := by
  unfold S2S.Gossip.endStream; split
  · exact (Quiet.unregister ..).of_eq rfl rfl
  · exact .refl _

theorem Quiet.dropChan (σ : State) (n s id) : Quiet σ (dropChan σ n s id) := by
  unfold S2S.Gossip.dropChan; split
  · exact Quiet.setNode σ n _ rfl
  · exact .refl _

theorem Quiet.bookSt (σ : State) (it keep) : Quiet σ (bookSt σ it keep) :=
  ⟨fun _ => rfl, fun _ _ _ => mem_net_bookSt⟩

/-- the actions that are quiet whatever the state -/
def Act.quiet : Act → Bool
  | .tick | .add .. | .announce .. | .streamEnd .. | .deliver (.ann ..) _ => true
  | _ => false

theorem step_quiet (cfg : Cfg) (σ : State) {a : Act} (h : a.quiet = true) : Quiet σ (step cfg σ a) := by
  cases a with
  | tick => exact (Quiet.refl σ).of_eq rfl rfl
  | add n s => exact (Quiet.setNode σ n (addNode (σ.node n) s σ.clock σ.adds.length) rfl).of_eq rfl rfl
  | announce n s =>
    simp only [step]; split
    · exact .refl _
    · next p _ => exact ((Quiet.setNode σ n (pendNode (σ.node n) p) rfl).trans (Quiet.emit _ .register n s (if cfg.stampAtBroadcast then σ.clock else p.2) (σ.node n))).of_eq rfl rfl
  | streamEnd n s c id => exact (Quiet.endStream ..).trans (Quiet.dropChan ..)
  | deliver it keep =>
    cases it with
    | snap => cases h
    | ann kind src s t dst =>
      rw [step_deliver]; split
      · exact (Quiet.bookSt ..).trans (Quiet.notifyMsg ..)
      · exact .refl _
  | _ => cases h

/-- the total `run` is the `some` instance of the fold in `Run.lean`; `Q σ r` as there -/
theorem run_induct {cfg : Cfg} {Q : State → List Act → Prop} (hstep : ∀ {σ a r}, Q σ (a :: r) → Q (step cfg σ a) r)
    (acts : List Act) (σ : State) (h : Q σ acts) : Q (run cfg σ acts) [] :=
  foldl_getD_induct₂ (f := fun s a => some (step cfg s a)) (fun _ _ _ _ e => nomatch e)
    (fun _ _ _ _ h e => by cases e; exact hstep h) acts σ h

theorem run_append (cfg : Cfg) (σ : State) (a b : List Act) : run cfg σ (a ++ b) = run cfg (run cfg σ a) b := by
  simp [run, List.foldl_append]

theorem run_cons (cfg : Cfg) (σ : State) (a : Act) (l : List Act) : run cfg σ (a :: l) = run cfg (step cfg σ a) l := rfl

theorem run_snoc (cfg : Cfg) (σ : State) (l : List Act) (a : Act) : run cfg σ (l ++ [a]) = step cfg (run cfg σ l) a := by
  simp [run, List.foldl_append]

end S2S.Gossip
