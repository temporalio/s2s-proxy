import S2S.Proofs.TranslateValEq
/-!
The namespace visitor's callback with its context.  In Go the callback receives a value together with its parent
(`visit.ValueWithParent`); the model's `FMode` / `IMode` exist only to make the recursion structural, and they push
what the callback does with a child into the function that walks the parent's list.  `nsStep c v` is the callback on
`v` found in context `c`, `namesStep` the same callback collecting the names it offers to the matcher.  A property of
the visitor is proved for `nsStep` in all contexts at once, by induction along the walk (`nsStep_ind`).
-/
namespace S2S.TranslateVal
open S2S.Translate S2S.NameMap
variable {α : Type} [DecidableEq α] {g : Graph} {tb : Tables} {X : Ext α} {mt : α → α × Bool}

/-- where the callback finds a value: it is the object handed to `visitNamespace`, or sits in the field `f` of a struct
    walked in `mode`, or is an element of a slice / map / event list walked in `mode` -/
inductive Ctx where
  | root
  | field (mode : FMode) (f : FieldD)
  | item (mode : IMode)

variable (X) in
/-- the callback passes a slice over: in a `History` every slice but `Events` -/
def Ctx.skipsList : Ctx → Bool
  | .field .hist f => !(f.go == X.eventsField)
  | _ => false

/-- the callback passes a map, or an entry of one, over: in a `History` -/
def Ctx.skipsMap : Ctx → Bool
  | .field .hist _ => true
  | _ => false

variable (g tb X) in
/-- the callback passes the value over without looking into it: a root the shortcut skips as a whole, in a `History`
    everything but the `Events` slice, in an event list a skippable event.  Only for a struct does the answer depend on
    what is in the value.  A string and a blob need no entry: in a `History` the one is no leaf, the other not decoded. -/
def Ctx.skips (c : Ctx) : Val α → Bool
  | .msg ty fs => (match c with
                   | .root => rootSkippable g tb X (.msg ty fs)
                   | .field .hist _ => true
                   | .item .events => evSkippable g tb X (.msg ty fs)
                   | _ => false)
  | .list _ => c.skipsList X
  | .map _ | .kv _ _ => c.skipsMap
  | _ => false

/-- a string found here is the field `f` of a struct (`ni`: of a NamespaceInfo) -/
def Ctx.leaf : Ctx → Option (Bool × FieldD)
  | .field .plain f => some (false, f)
  | .field .nsInfo f => some (true, f)
  | _ => none

variable (tb) in
/-- how the elements of a slice found here are walked -/
def Ctx.listMode : Ctx → IMode
  | .field .hist _ => .events
  | .field _ f => if blobCtx tb (some f) then .blobs else .plain
  | _ => .plain

variable (tb) in
/-- a blob found here is decoded -/
def Ctx.opens : Ctx → Bool
  | .field .hist _ => false
  | .field _ f => blobCtx tb (some f)
  | .item .blobs => true
  | _ => false

variable (g tb X mt) in
/-- (what the callback makes of `v`, matched) -/
def nsStep (c : Ctx) (v : Val α) : Val α × Bool :=
  if c.skips g tb X v then (v, false) else
  match v with
  | .str s => (match c.leaf with
               | some (ni, f) => (.str (nsStrStep g tb mt ni f s).1, (nsStrStep g tb mt ni f s).2)
               | none => (.str s, false))
  | .msg ty fs =>
    (.msg ty (visitNsFields g tb X mt (nsMode g ty) (g.typeD ty).fields fs).1,
     (visitNsFields g tb X mt (nsMode g ty) (g.typeD ty).fields fs).2)
  | .list l => (.list (visitNsItems g tb X mt (c.listMode tb) l).1, (visitNsItems g tb X mt (c.listMode tb) l).2)
  | .map l => (.map (visitNsItems g tb X mt .plain l).1, (visitNsItems g tb X mt .plain l).2)
  | .kv k w => (.kv k (visitNs g tb X mt none w).1, (visitNs g tb X mt none w).2)
  | .blobEv re evs => if c.opens tb then nsBlobStep g tb X mt re evs else (.blobEv re evs, false)
  | w => (w, false)

variable (g tb X) in
def namesStep (c : Ctx) (v : Val α) : List α :=
  if c.skips g tb X v then [] else
  match v with
  | .str s => (match c.leaf with
               | some (ni, f) => if nsLeafOf g tb ni f then [s] else []
               | none => [])
  | .msg ty fs => namesFields g tb X (nsMode g ty) (g.typeD ty).fields fs
  | .list l => namesItems g tb X (c.listMode tb) l
  | .map l => namesItems g tb X .plain l
  | .kv _ w => namesV g tb X none w
  | .blobEv _ evs => if c.opens tb && !listSkippable g tb X evs then namesItems g tb X .plain evs else []
  | _ => []

theorem visitNsFields_cons (mode : FMode) (f : FieldD) (fds : List FieldD) (v : Val α) (vs : List (Val α)) :
    visitNsFields g tb X mt mode (f :: fds) (v :: vs) =
      ((nsStep g tb X mt (.field mode f) v).1 :: (visitNsFields g tb X mt mode fds vs).1,
       (nsStep g tb X mt (.field mode f) v).2 || (visitNsFields g tb X mt mode fds vs).2) := by
  -- a failing `rfl` is dear: the two cases that are not `rfl` come first
  cases mode <;> cases v
  case plain.str =>
    show ((visitNs g tb X mt (some f) (.str _)).1 :: _, (visitNs g tb X mt (some f) (.str _)).2 || _) = _
    rw [visitNs_str_some]; rfl
  case hist.list =>
    by_cases h : (f.go == X.eventsField) = true <;> simp [visitNsFields, nsStep, Ctx.skips, Ctx.skipsList, Ctx.listMode, h]
  all_goals rfl

theorem visitNsItems_cons (mode : IMode) (v : Val α) (vs : List (Val α)) :
    visitNsItems g tb X mt mode (v :: vs) =
      ((nsStep g tb X mt (.item mode) v).1 :: (visitNsItems g tb X mt mode vs).1,
       (nsStep g tb X mt (.item mode) v).2 || (visitNsItems g tb X mt mode vs).2) := by
  cases mode <;> cases v <;> rfl

theorem visitNsItems_fst (mode : IMode) (l : List (Val α)) :
    (visitNsItems g tb X mt mode l).1 = l.map fun v => (nsStep g tb X mt (.item mode) v).1 := by
  induction l with
  | nil => rfl
  | cons v vs ih => rw [visitNsItems_cons, List.map_cons, ← ih]

theorem visitNs_eq_step (fc : Option FieldD) (v : Val α) :
    visitNs g tb X mt fc v = nsStep g tb X mt (match fc with | some f => .field .plain f | none => .item .plain) v := by
  cases fc with
  | none => cases v <;> rfl
  | some f =>
    cases v
    case str => exact visitNs_str_some f _
    all_goals rfl

theorem visitNamespace_eq_step (v : Val α) : visitNamespace g tb X mt v = nsStep g tb X mt .root v := by
  cases v <;> rfl

theorem translateNs_eq_step (m : List (α × α)) (v : Val α) : translateNs g tb X m v = nsStep g tb X (look m) .root v :=
  visitNamespace_eq_step v

theorem namesFields_cons (mode : FMode) (f : FieldD) (fds : List FieldD) (v : Val α) (vs : List (Val α)) :
    namesFields g tb X mode (f :: fds) (v :: vs) = namesStep g tb X (.field mode f) v ++ namesFields g tb X mode fds vs := by
  cases mode <;> cases v
  case hist.list =>
    show (if f.go == X.eventsField then _ else _) ++ _ = (if !(f.go == X.eventsField) then _ else _) ++ _
    cases f.go == X.eventsField <;> rfl
  all_goals rfl

theorem namesItems_cons (mode : IMode) (v : Val α) (vs : List (Val α)) :
    namesItems g tb X mode (v :: vs) = namesStep g tb X (.item mode) v ++ namesItems g tb X mode vs := by
  cases mode <;> cases v
  case blobs.blobEv =>
    show (if listSkippable g tb X _ then _ else _) ++ _ = (if (true && !listSkippable g tb X _) then _ else _) ++ _
    cases listSkippable g tb X _ <;> rfl
  all_goals rfl

theorem namesV_eq_step (fc : Option FieldD) (v : Val α) :
    namesV g tb X fc v = namesStep g tb X (match fc with | some f => .field .plain f | none => .item .plain) v := by
  cases fc <;> cases v <;> rfl

theorem visitedNames_eq_step (v : Val α) : visitedNames g tb X v = namesStep g tb X .root v := by
  cases v <;> rfl

theorem namesFields_nil (mode : FMode) (vs : List (Val α)) : namesFields g tb X mode [] vs = [] := by
  cases vs <;> rfl
variable (g tb X) in
theorem namesFields_nil' (mode : FMode) (fds : List FieldD) : namesFields g tb X mode fds ([] : List (Val α)) = [] := by
  cases fds <;> rfl
variable (g tb X) in
theorem namesItems_nil (mode : IMode) : namesItems g tb X mode ([] : List (Val α)) = [] := rfl
theorem namesV_list (fc : Option FieldD) (l : List (Val α)) :
    namesV g tb X fc (.list l) = namesItems g tb X (if blobCtx tb fc then .blobs else .plain) l := rfl
theorem namesV_map (fc : Option FieldD) (l : List (Val α)) : namesV g tb X fc (.map l) = namesItems g tb X .plain l := rfl
theorem namesV_kv (fc : Option FieldD) (k : α) (v : Val α) : namesV g tb X fc (.kv k v) = namesV g tb X none v := rfl
theorem namesV_blobEv (fc : Option FieldD) (re : Bool) (evs : List (Val α)) :
    namesV g tb X fc (.blobEv re evs) =
      if blobCtx tb fc && !listSkippable g tb X evs then namesItems g tb X .plain evs else [] := rfl
theorem namesV_str_some (f : FieldD) (s : α) :
    namesV g tb X (some f) (.str s) = if isNsLeafField tb f then [s] else [] := rfl

theorem skips_root (v : Val α) : Ctx.root.skips g tb X v = rootSkippable g tb X v := by cases v <;> rfl

theorem nsStep_skips {c : Ctx} {v : Val α} (h : c.skips g tb X v = true) : nsStep g tb X mt c v = (v, false) := if_pos h

theorem nsStep_str (c : Ctx) (s : α) :
    nsStep g tb X mt c (.str s) = match c.leaf with
      | some (ni, f) => (.str (nsStrStep g tb mt ni f s).1, (nsStrStep g tb mt ni f s).2)
      | none => (.str s, false) := rfl

theorem nsStep_msg {c : Ctx} {ty : Nat} {fs : List (Val α)} (h : c.skips g tb X (.msg ty fs) = false) :
    nsStep g tb X mt c (.msg ty fs) =
      (.msg ty (visitNsFields g tb X mt (nsMode g ty) (g.typeD ty).fields fs).1,
       (visitNsFields g tb X mt (nsMode g ty) (g.typeD ty).fields fs).2) := if_neg (ne_true_of_eq_false h)

theorem nsStep_list {c : Ctx} {l : List (Val α)} (h : c.skipsList X = false) :
    nsStep g tb X mt c (.list l) =
      (.list (visitNsItems g tb X mt (c.listMode tb) l).1, (visitNsItems g tb X mt (c.listMode tb) l).2) :=
  if_neg (ne_true_of_eq_false h)

theorem nsStep_map {c : Ctx} {l : List (Val α)} (h : c.skipsMap = false) :
    nsStep g tb X mt c (.map l) = (.map (visitNsItems g tb X mt .plain l).1, (visitNsItems g tb X mt .plain l).2) :=
  if_neg (ne_true_of_eq_false h)

theorem nsStep_kv {c : Ctx} {k : α} {w : Val α} (h : c.skipsMap = false) :
    nsStep g tb X mt c (.kv k w) = (.kv k (nsStep g tb X mt (.item .plain) w).1, (nsStep g tb X mt (.item .plain) w).2) := by
  rw [← visitNs_eq_step none]; exact if_neg (ne_true_of_eq_false h)

theorem nsStep_blobEv (c : Ctx) (re : Bool) (evs : List (Val α)) :
    nsStep g tb X mt c (.blobEv re evs) = if c.opens tb then nsBlobStep g tb X mt re evs else (.blobEv re evs, false) :=
  rfl

theorem nsMode_hist {ty : Nat} (h : nsMode g ty = .hist) : ty = g.historyType := by
  revert h
  fun_cases nsMode g ty <;> intro h <;> cases h
  exact eq_of_beq ‹_›

theorem nsMode_nsInfo {ty : Nat} (h : nsMode g ty = .nsInfo) : (ty == g.namespaceInfo) = true := by
  revert h
  fun_cases nsMode g ty <;> intro h <;> cases h
  assumption

variable (g tb X) in
theorem field_of_ne_hist {mode : FMode} (hm : mode ≠ .hist) (f : FieldD) :
    (∀ w : Val α, (Ctx.field mode f).skips g tb X w = false) ∧ (Ctx.field mode f).opens tb = blobCtx tb (some f) ∧
      (Ctx.field mode f).listMode tb = if blobCtx tb (some f) then .blobs else .plain := by
  cases mode <;> first | exact absurd rfl hm | exact ⟨fun w => by cases w <;> rfl, rfl, rfl⟩

theorem nsStep_str_field {ty : Nat} (h : ty ≠ g.historyType) (f : FieldD) (s : α) :
    (nsStep g tb X mt (.field (nsMode g ty) f) (.str s)).1 = .str (nsStrStep g tb mt (ty == g.namespaceInfo) f s).1 := by
  unfold nsMode
  rw [if_neg (by simpa using h)]
  cases ty == g.namespaceInfo <;> rfl

theorem namesStep_str (c : Ctx) (s : α) :
    namesStep g tb X c (.str s) = match c.leaf with
      | some (ni, f) => if nsLeafOf g tb ni f then [s] else []
      | none => [] := rfl

theorem namesStep_msg {c : Ctx} {ty : Nat} {fs : List (Val α)} (h : c.skips g tb X (.msg ty fs) = false) :
    namesStep g tb X c (.msg ty fs) = namesFields g tb X (nsMode g ty) (g.typeD ty).fields fs :=
  if_neg (ne_true_of_eq_false h)

theorem namesStep_list {c : Ctx} {l : List (Val α)} (h : c.skipsList X = false) :
    namesStep g tb X c (.list l) = namesItems g tb X (c.listMode tb) l := if_neg (ne_true_of_eq_false h)

theorem namesStep_map {c : Ctx} {l : List (Val α)} (h : c.skipsMap = false) :
    namesStep g tb X c (.map l) = namesItems g tb X .plain l := if_neg (ne_true_of_eq_false h)

theorem namesStep_kv {c : Ctx} {k : α} {w : Val α} (h : c.skipsMap = false) :
    namesStep g tb X c (.kv k w) = namesStep g tb X (.item .plain) w := by
  rw [← namesV_eq_step none]; exact if_neg (ne_true_of_eq_false h)

theorem namesStep_blobEv (c : Ctx) (re : Bool) (evs : List (Val α)) :
    namesStep g tb X c (.blobEv re evs) =
      if c.opens tb && !listSkippable g tb X evs then namesItems g tb X .plain evs else [] := rfl

variable (g tb X) in
/-- A value the callback passes over (skipped here, atomic, a string that is no field of a struct, a blob that is not
    decoded or whose events the shortcut skips) comes back as it is and offers no name (`same`); for a walked value the
    hypothesis is about its children in the contexts the walk finds them in. -/
theorem nsStep_ind {P : Ctx → Val α → Prop} {QF : FMode → List FieldD → List (Val α) → Prop}
    {QI : IMode → List (Val α) → Prop}
    (same : ∀ c v, (∀ mt, nsStep g tb X mt c v = (v, false)) → namesStep g tb X c v = [] → P c v)
    (str : ∀ c s ni f, c.leaf = some (ni, f) → P c (.str s))
    (msg : ∀ c ty fs, c.skips g tb X (.msg ty fs) = false → QF (nsMode g ty) (g.typeD ty).fields fs → P c (.msg ty fs))
    (list : ∀ c l, c.skipsList X = false → QI (c.listMode tb) l → P c (.list l))
    (map : ∀ c l, c.skipsMap = false → QI .plain l → P c (.map l))
    (kv : ∀ c k w, c.skipsMap = false → P (.item .plain) w → P c (.kv k w))
    (blobEv : ∀ c re evs, c.opens tb = true → listSkippable g tb X evs = false → QI .plain evs → P c (.blobEv re evs))
    (fnil : ∀ mode vs, QF mode [] vs) (fnil' : ∀ mode fds, QF mode fds [])
    (fcons : ∀ mode f fds v vs, P (.field mode f) v → QF mode fds vs → QF mode (f :: fds) (v :: vs))
    (inil : ∀ mode, QI mode [])
    (icons : ∀ mode v vs, P (.item mode) v → QI mode vs → QI mode (v :: vs)) :
    (∀ c v, P c v) ∧ (∀ mode fds l, QF mode fds l) ∧ (∀ mode l, QI mode l) := by
  have walked : ∀ c v, (c.skips g tb X v = false → P c v) → P c v := fun c v h => by
    cases hs : c.skips g tb X v with
    | true => exact same c v (fun _ => nsStep_skips hs) (if_pos hs)
    | false => exact h hs
  have H : (∀ v, ∀ c, P c v) ∧ (∀ l, (∀ mode fds, QF mode fds l) ∧ (∀ mode, QI mode l)) := by
    apply Val.ind2
    case tok | payload | nil => exact fun _ c => same c _ (fun _ => rfl) rfl
    case blobRaw => exact fun _ _ c => same c _ (fun _ => rfl) rfl
    · intro s c
      cases hl : c.leaf with
      | none => exact same c _ (fun _ => by rw [nsStep_str, hl]) (by rw [namesStep_str, hl])
      | some p => exact str c s p.1 p.2 hl
    · exact fun ty fs ih c => walked c _ fun hs => msg c ty fs hs (ih.1 _ _)
    · exact fun l ih c => walked c _ fun hs => list c l hs (ih.2 _)
    · exact fun l ih c => walked c _ fun hs => map c l hs (ih.2 _)
    · exact fun k w ih c => walked c _ fun hs => kv c k w hs (ih _)
    · intro re evs ih c
      cases ho : c.opens tb with
      | false => exact same c _ (fun _ => by rw [nsStep_blobEv, ho]; rfl) (by rw [namesStep_blobEv, ho]; rfl)
      | true =>
        cases hl : listSkippable g tb X evs with
        | true => exact same c _ (fun _ => by rw [nsStep_blobEv, ho, nsBlobStep, hl]; rfl) (by rw [namesStep_blobEv, ho, hl]; rfl)
        | false => exact blobEv c re evs ho hl (ih.2 _)
    · exact ⟨fnil', inil⟩
    · intro v vs ihv _ ihvs
      refine ⟨fun mode fds => ?_, fun mode => icons mode v vs (ihv _) (ihvs.2 mode)⟩
      cases fds with
      | nil => exact fnil mode _
      | cons f fds => exact fcons mode f fds v vs (ihv _) (ihvs.1 mode fds)
  exact ⟨fun c v => H.1 v c, fun mode fds l => (H.2 l).1 mode fds, fun mode l => (H.2 l).2 mode⟩

end S2S.TranslateVal
