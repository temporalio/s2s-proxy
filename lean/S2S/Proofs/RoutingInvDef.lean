import S2S.Proofs.RoutingSrcStep
/-!
The invariant for C01 (fault-free runs of the routing model), the view `flat` of the pipeline from a source to a
target it is stated over, and `AcksAreLast`: every acknowledgement a step sends is the post-state's `lastSentAck`
(for every configuration and every action, faults included), which is what ties an invariant about `lastSentAck`
to the statement about `acksSent`.
-/
namespace S2S.Routing

/-- values of source `s` carried by one queued message: (value, isTask) -/
def msgVals (s : SId) : Msg → List (Int × Bool)
  | .tasks s' ids => if s' = s then ids.map (fun i => (i, true)) else []
  | .wm s' h => if s' = s then [(h, false)] else []

def chanVals (s : SId) (ch : List Msg) : List (Int × Bool) := ch.flatMap (msgVals s)

/-- the sub-batch for `t` not yet handed off -/
def pendVals (pc : RecvPc) (t : TId) : List (Int × Bool) :=
  match pc with
  | .deliver pending => ((aget pending t).getD []).map (fun i => (i, true))
  | _ => []

/-- the not-yet-taken part of the pipeline of source `s` towards target `t`, in order -/
def flat (s : SId) (t : TId) (x : Source) (tg : Target) : List (Int × Bool) :=
  chanVals s tg.sendChan ++ pendVals x.pc t

/-- every task of `s` owned by `t` received so far with id `< v` is confirmed on `t` -/
def SafeV (s : SId) (t : TId) (x : Source) (tg : Target) (v : Int) : Prop :=
  ∀ id, (id, t) ∈ x.received → id < v → (s, id) ∈ tg.confirmed

/-- nothing ahead of a task in the pipeline exceeds it -/
def FlatRel (y z : Int × Bool) : Prop := z.2 = true → y.1 ≤ z.1

/-- the clauses of `PairF` (`RoutingFaultDef.lean`, where each is explained) for the fault-free case: every received
    task is needed, and `lastHigh` is the bound -/
structure PairOK (s : SId) (t : TId) (x : Source) (tg : Target) : Prop where
  cover : ∀ id, (id, t) ∈ x.received → (∃ p, (s, id, p) ∈ tg.assigned) ∨ (id, true) ∈ flat s t x tg
  sorted : (flat s t x tg).Pairwise FlatRel
  flat_le : ∀ y ∈ flat s t x tg, y.1 ≤ x.lastHigh
  ring_ok : ∀ p o, (p, s, o) ∈ tg.ring → ∀ id, (id, t) ∈ x.received → id < o →
    ∃ p', p' < p ∧ (s, id, p') ∈ tg.assigned
  ring_le : ∀ p o, (p, s, o) ∈ tg.ring → o ≤ x.lastHigh
  todo_safe : ∀ todo d r, tg.ackPc = .forwarding todo d r → ∀ v, (s, v) ∈ todo →
    SafeV s t x tg v ∧ v ≤ x.lastHigh
  prev_safe : ∀ v, (s, v) ∈ tg.prevAck → SafeV s t x tg v ∧ v ≤ x.lastHigh
  chan_safe : ∀ v, (t, v) ∈ x.ackChan → SafeV s t x tg v ∧ v ≤ x.lastHigh
  abt_safe : ∀ v, (t, v) ∈ x.ackByTarget → SafeV s t x tg v ∧ v ≤ x.lastHigh
  last_safe : ∀ a, x.lastSentAck = some a → SafeV s t x tg a

structure SrcOK (x : Source) : Prop where
  inactive : x.active = false → x = {}
  wm_le : ∀ h, x.lastWatermark = some h → h ≤ x.lastHigh
  wm_pend : ∀ h, x.lastWatermark = some h → ∀ t, ∀ y ∈ pendVals x.pc t, h ≤ y.1
  bcast_le : ∀ high todo, x.pc = .bcast high todo → high ≤ x.lastHigh
  last_le : ∀ a, x.lastSentAck = some a → a ≤ x.lastHigh
  seeded : ∀ id t, (id, t) ∈ x.received → (aget x.ackByTarget t).isSome = true
  grave : x.graveyard = []

structure TgtOK (tg : Target) : Prop where
  unreg : tg.registered = false → tg = {}
  asg_le : ∀ s id p, (s, id, p) ∈ tg.assigned → p ≤ tg.nextProxyId

structure Inv (σ : State) : Prop where
  src : ∀ s, SrcOK (σ.src s)
  tgt : ∀ t, TgtOK (σ.tgt t)
  pair : ∀ s t, PairOK s t (σ.src s) (σ.tgt t)

theorem msgVals_wm_self (s : SId) (v : Int) : msgVals s (.wm s v) = [(v, false)] := if_pos rfl

theorem msgVals_tasks_self (s : SId) (ids : List Int) :
    msgVals s (.tasks s ids) = ids.map (fun i => (i, true)) := if_pos rfl

theorem msgVals_wm_ne {s s0 : SId} (h : s ≠ s0) (v : Int) : msgVals s (.wm s0 v) = [] := if_neg (Ne.symm h)

theorem msgVals_tasks_ne {s s0 : SId} (h : s ≠ s0) (ids : List Int) : msgVals s (.tasks s0 ids) = [] :=
  if_neg (Ne.symm h)

theorem mem_msgVals_tasks {s s0 : SId} {ids : List Int} {id : Int} {b : Bool}
    (h : (id, b) ∈ msgVals s (.tasks s0 ids)) : s0 = s ∧ id ∈ ids := by
  simp only [msgVals] at h
  split at h
  · obtain ⟨_, ha, e⟩ := List.mem_map.1 h
    cases e; exact ⟨‹_›, ha⟩
  · cases h

theorem chanVals_cons (s : SId) (m : Msg) (ch : List Msg) :
    chanVals s (m :: ch) = msgVals s m ++ chanVals s ch := by
  simp [chanVals, List.flatMap_cons]

theorem chanVals_push (s : SId) (tg : Target) (m : Msg) :
    chanVals s (tg.push m).sendChan = chanVals s tg.sendChan ++ msgVals s m := by
  simp [chanVals, Target.push, List.flatMap_append]

@[simp] theorem pendVals_idle (t : TId) : pendVals RecvPc.idle t = [] := rfl

@[simp] theorem pendVals_bcast (high : Int) (l : List (TId × Nat)) (t : TId) :
    pendVals (RecvPc.bcast high l) t = [] := rfl

theorem pendVals_ite_bcast (high : Int) (l : List (TId × Nat)) (t : TId) :
    pendVals (if l.isEmpty = true then RecvPc.idle else RecvPc.bcast high l) t = [] := by
  split <;> rfl

theorem pendVals_pcDrop_bcast (high : Int) (todo : List (TId × Nat)) (t t' : TId) :
    pendVals (pcDrop (.bcast high) todo t) t' = [] := pendVals_ite_bcast ..

theorem pendVals_deliver_self {pending : List (TId × List Int)} {t : TId} {ids : List Int}
    (h : aget pending t = some ids) : pendVals (.deliver pending) t = ids.map (fun i => (i, true)) := by
  simp only [pendVals, h, Option.getD_some]

theorem pendVals_pcDrop_deliver (pending : List (TId × List Int)) (t t' : TId) :
    pendVals (pcDrop .deliver pending t) t' = if t' = t then [] else pendVals (.deliver pending) t' := by
  rw [apply_pcDrop (pendVals · t') rfl]; simp only [pendVals, aget_filter_ne]
  split <;> rfl

theorem pendVals_groups (tasks : List (Int × TId)) (t : TId) :
    pendVals (.deliver (groupByOwner tasks)) t = (ownedIds tasks t).map (fun i => (i, true)) :=
  congrArg (List.map _) (getD_aget_groupByOwner tasks t)

theorem mem_pendVals_snd {pc : RecvPc} {t : TId} {y : Int × Bool} (h : y ∈ pendVals pc t) : y.2 = true := by
  unfold pendVals at h
  split at h
  · obtain ⟨i, _, rfl⟩ := List.mem_map.1 h; rfl
  · cases h

def AcksAreLast (σ σ' : State) : Prop :=
  ∀ s v, v ∈ newAcks σ σ' s → (σ'.src s).lastSentAck = some v

theorem acksAreLast_setBoth (σ : State) (s : SId) (x' : Source) (t : TId) (tg : Target)
    (h : x'.acksSent = (σ.src s).acksSent) : AcksAreLast σ ((σ.setSrc s x').setTgt t tg) := by
  intro s' v hv
  simp only [newAcks, src_setTgt, src_setSrc] at hv
  split at hv
  · rename_i e; rw [h, e.1] at hv; simp at hv
  · simp at hv

/-- only `rack` and `tick` append to `acksSent` -/
theorem step_acksAreLast {c : Cfg} {σ σ' : State} {a : Act} (h : step c σ a = some σ') : AcksAreLast σ σ' := by
  intro s v hv
  unfold newAcks at hv
  cases AF.step_src h s with
  | quiet r | recv _ _ r | openSrc r | breakSrc r => rw [r.acks, List.drop_length] at hv; cases hv
  | rack m r => rw [r.acks, List.drop_left, List.mem_singleton] at hv; rw [hv]; exact r.lsa
  | tick m r => rw [r.acks, List.drop_left, List.mem_singleton] at hv; rw [hv, r.lsa]; exact r.last

end S2S.Routing
