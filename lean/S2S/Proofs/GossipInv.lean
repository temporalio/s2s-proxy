import S2S.Proofs.GossipBasic
/-! The inductive invariant of the gossip machine (C09) and its preservation by every action. -/
namespace S2S.Gossip

structure Inv (σ : State) : Prop where
  /-- registrations, announcements and claims carry clock values of the past (`addsClock`, `netClock`, `delClock`) -/
  addsClock : ∀ n s c, (n, s, c) ∈ σ.adds → c ≤ σ.clock
  /-- a local entry, and a pending `RegisterShard`, come from a recorded `addLocalShard` -/
  localAdds : ∀ n s c, aget (σ.node n).locals s = some c → (n, s, c) ∈ σ.adds
  pendAdds  : ∀ n p, p ∈ (σ.node n).pending → (n, p.1, p.2) ∈ σ.adds
  netClock  : ∀ src s t dst, Item.ann .register src s t dst ∈ σ.net → t ≤ σ.clock
  delClock  : ∀ src s t dst, Item.ann .register src s t dst ∈ σ.delivered → t ≤ σ.clock
  /-- C09 (a): a holder registered no earlier than the stamp of any register announcement delivered to it -/
  seen      : ∀ m s c src t, aget (σ.node m).locals s = some c →
                Item.ann .register src s t m ∈ σ.delivered → t ≤ c
  /-- what became of a registration: still held, evicted, ended with its stream, or superseded on the same node -/
  accounted : ∀ n s c, (n, s, c) ∈ σ.adds →
                aget (σ.node n).locals s = some c ∨ (∃ t, (n, s, c, t) ∈ σ.evicted) ∨
                (n, s, c) ∈ σ.ended ∨ (∃ c', (n, s, c') ∈ σ.adds ∧ c < c')
  /-- an eviction was caused by a newer register announcement addressed to that node -/
  evictedWhy : ∀ n s c t, (n, s, c, t) ∈ σ.evicted →
                c < t ∧ ∃ src, (Item.ann .register src s t n ∈ σ.net ∨ Item.ann .register src s t n ∈ σ.delivered)
  /-- a register announcement comes from another node and announces a recorded claim -/
  regFrom   : ∀ src s t dst, (Item.ann .register src s t dst ∈ σ.net ∨ Item.ann .register src s t dst ∈ σ.delivered) →
                src ≠ dst ∧ ∃ c, Claim.mk src s c t ∈ σ.claims
  /-- a claim's window `[created, stamp]` lies in the past and belongs to a recorded registration -/
  claimWf   : ∀ k ∈ σ.claims, k.created ≤ k.stamp ∧ k.stamp ≤ σ.clock ∧ (k.node, k.shard, k.created) ∈ σ.adds
  /-- whatever is in flight or was delivered has been emitted -/
  netEmitted : ∀ it, (it ∈ σ.net ∨ it ∈ σ.delivered) → it ∈ σ.emitted

theorem inv_init : Inv State.init := by
  constructor <;> intros <;> simp_all [State.init, aget]

/-- two states that agree on everything the invariant reads -/
structure SameCore (σ σ' : State) : Prop where
  net : σ'.net = σ.net
  clock : σ'.clock = σ.clock
  adds : σ'.adds = σ.adds
  claims : σ'.claims = σ.claims
  evicted : σ'.evicted = σ.evicted
  ended : σ'.ended = σ.ended
  delivered : σ'.delivered = σ.delivered
  emitted : σ'.emitted = σ.emitted
  locals : ∀ n, (σ'.node n).locals = (σ.node n).locals
  pending : ∀ n, (σ'.node n).pending = (σ.node n).pending

theorem Inv.tick {σ : State} (i : Inv σ) : Inv { σ with clock := σ.clock + 1 } :=
  { i with
    addsClock := fun n s c h => Nat.le_succ_of_le (i.addsClock n s c h)
    netClock := fun a b c d h => Nat.le_succ_of_le (i.netClock a b c d h)
    delClock := fun a b c d h => Nat.le_succ_of_le (i.delClock a b c d h)
    claimWf := fun k hk => ⟨(i.claimWf k hk).1, Nat.le_succ_of_le (i.claimWf k hk).2.1, (i.claimWf k hk).2.2⟩ }

theorem Inv.send {σ : State} (i : Inv σ) (items : List Item)
    (h : ∀ src s t dst, Item.ann .register src s t dst ∈ items →
      t ≤ σ.clock ∧ src ≠ dst ∧ ∃ c, Claim.mk src s c t ∈ σ.claims) : Inv (σ.send items) :=
  { i with
    netClock := fun a b c d hm => (List.mem_append.1 hm).elim (i.netClock a b c d) fun hm => (h a b c d hm).1
    evictedWhy := fun n s c t h0 =>
      let ⟨h1, src, h2⟩ := i.evictedWhy n s c t h0
      ⟨h1, src, h2.imp (List.mem_append_left _) id⟩
    regFrom := fun a b c d hm => (mem_send hm).elim (i.regFrom a b c d) fun hm => (h a b c d hm).2
    netEmitted := fun it hm => (mem_send hm).elim (fun hm => List.mem_append_left _ (i.netEmitted it hm)) (List.mem_append_right _) }

theorem mem_pending_setNode {σ : State} {n m : NodeId} {x : Node} {p : ShardId × Time}
    (h : p ∈ ((σ.setNode n x).node m).pending) : (m = n ∧ p ∈ x.pending) ∨ p ∈ (σ.node m).pending := by
  rw [setNode_node] at h; split at h
  · next e => exact .inl ⟨e, h⟩
  · exact .inr h

theorem holds_erase {σ : State} {n : NodeId} {s : ShardId} {m s' c'} :
    aget ((σ.setNode n { σ.node n with locals := aerase (σ.node n).locals s }).node m).locals s' = some c' ↔
      aget (σ.node m).locals s' = some c' ∧ ¬ (m = n ∧ s' = s) := by
  by_cases hm : m = n <;> by_cases hs : s' = s <;> simp [aget_aerase, hm, hs]

theorem Inv.book {σ : State} (i : Inv σ) (it : Item) (keep : Bool) (hin : it ∈ σ.net)
    (hseen : ∀ src s t m c, it = Item.ann .register src s t m → aget (σ.node m).locals s = some c → t ≤ c) :
    Inv (bookSt σ it keep) :=
  { i with
    netClock := fun a b c d h => i.netClock a b c d (mem_net_bookSt h)
    delClock := fun a b c d h => (List.mem_cons.1 h).elim (fun h => i.netClock a b c d (h ▸ hin)) (i.delClock a b c d)
    seen := fun m s c src t hl h => (List.mem_cons.1 h).elim (fun h => hseen src s t m c h.symm hl) (i.seen m s c src t hl)
    evictedWhy := fun n s c t h0 =>
      let ⟨h1, src, h2⟩ := i.evictedWhy n s c t h0
      ⟨h1, src, (mem_bookSt hin).2 h2⟩
    regFrom := fun a b c d h => i.regFrom a b c d ((mem_bookSt hin).1 h)
    netEmitted := fun x h => i.netEmitted x ((mem_bookSt hin).1 h) }

/-- `UnregisterShard(s, c)` hitting its entry, with the reason recorded -/
theorem Inv.unregisterWith {σ : State} (i : Inv σ) (n : NodeId) (s : ShardId) (c : Time)
    (hc : aget (σ.node n).locals s = some c)
    {ev : List (NodeId × ShardId × Time × Time)} {en : List (NodeId × ShardId × Time)}
    (hsub1 : ∀ e ∈ σ.evicted, e ∈ ev) (hsub2 : ∀ e ∈ σ.ended, e ∈ en)
    (hwhy : ∀ n s c t, (n, s, c, t) ∈ ev → c < t ∧ ∃ src, (Item.ann .register src s t n ∈ σ.net ∨ Item.ann .register src s t n ∈ σ.delivered))
    (hacc : (∃ t, (n, s, c, t) ∈ ev) ∨ (n, s, c) ∈ en) :
    Inv { unregister σ n s c with evicted := ev, ended := en } := by
  simp only [unregister, hc, if_true]
  -- first the entry goes and the removal is recorded, then the "unregister" announcements are sent
  refine Inv.send (σ := { σ.setNode n { σ.node n with locals := aerase (σ.node n).locals s } with evicted := ev, ended := en })
    { i with
      localAdds := fun m s' c' h => i.localAdds m s' c' (holds_erase.1 h).1
      pendAdds := fun m p h => i.pendAdds m p (by rcases mem_pending_setNode h with ⟨rfl, h⟩ | h <;> exact h)
      seen := fun m s' c' src t h hd => i.seen m s' c' src t (holds_erase.1 h).1 hd
      accounted := fun n' s' c' ha => by
        rcases i.accounted n' s' c' ha with h | ⟨t, h⟩ | h | h
        · by_cases hx : n' = n ∧ s' = s
          · obtain ⟨rfl, rfl⟩ := hx
            cases hc.symm.trans h
            exact hacc.elim (fun h => .inr (.inl h)) fun h => .inr (.inr (.inl h))
          · exact .inl (holds_erase.2 ⟨h, hx⟩)
        · exact .inr (.inl ⟨t, hsub1 _ h⟩)
        · exact .inr (.inr (.inl (hsub2 _ h)))
        · exact .inr (.inr (.inr h))
      evictedWhy := hwhy } _ ?_
  intro src s' t' dst h
  obtain ⟨d, _, e⟩ := mem_emit h
  cases e

theorem holds_add {σ : State} {n : NodeId} {s : ShardId} {id : Nat} {m s' c'} :
    aget ((σ.setNode n (addNode (σ.node n) s σ.clock id)).node m).locals s' = some c' ↔
      (m = n ∧ s' = s ∧ c' = σ.clock) ∨ (¬ (m = n ∧ s' = s) ∧ aget (σ.node m).locals s' = some c') := by
  by_cases hm : m = n <;> by_cases hs : s' = s <;> simp [aget_aset, hm, hs, eq_comm]

theorem Inv.add {cfg : Cfg} {σ : State} (i : Inv σ) (n : NodeId) (s : ShardId) : Inv (step cfg σ (.add n s)) := by
  rw [step_add]
  exact { i with
    addsClock := fun n' s' c' h => by
      rcases List.mem_cons.1 h with h | h
      · cases h; exact Nat.le_refl _
      · exact i.addsClock n' s' c' h
    localAdds := fun m s' c' h => by
      rcases holds_add.1 h with ⟨rfl, rfl, rfl⟩ | ⟨_, h⟩
      · exact List.mem_cons_self
      · exact List.mem_cons_of_mem _ (i.localAdds m s' c' h)
    pendAdds := fun m p h => by
      rcases mem_pending_setNode h with ⟨rfl, h⟩ | h
      · rcases List.mem_append.1 h with h | h
        · exact List.mem_cons_of_mem _ (i.pendAdds m p h)
        · cases List.mem_singleton.1 h; exact List.mem_cons_self
      · exact List.mem_cons_of_mem _ (i.pendAdds m p h)
    seen := fun m s' c' src t h hd => by
      rcases holds_add.1 h with ⟨rfl, rfl, rfl⟩ | ⟨_, h⟩
      · exact i.delClock src s' t m hd
      · exact i.seen m s' c' src t h hd
    accounted := fun n' s' c' ha => by
      rcases List.mem_cons.1 ha with ha0 | ha0
      · cases ha0; exact .inl (holds_add.2 (.inl ⟨rfl, rfl, rfl⟩))
      · by_cases hx : n' = n ∧ s' = s
        · -- an older registration of the same shard on the same node: made at this instant, or superseded now
          obtain ⟨rfl, rfl⟩ := hx
          rcases Nat.lt_or_eq_of_le (i.addsClock n' s' c' ha0) with hlt | rfl
          · exact .inr (.inr (.inr ⟨σ.clock, List.mem_cons_self, hlt⟩))
          · exact .inl (holds_add.2 (.inl ⟨rfl, rfl, rfl⟩))
        · exact (i.accounted n' s' c' ha0).imp (fun h => holds_add.2 (.inr ⟨hx, h⟩))
            (Or.imp id (Or.imp id fun ⟨c2, h, hlt⟩ => ⟨c2, List.mem_cons_of_mem _ h, hlt⟩))
    claimWf := fun k hk => ⟨(i.claimWf k hk).1, (i.claimWf k hk).2.1, List.mem_cons_of_mem _ (i.claimWf k hk).2.2⟩ }

theorem Inv.setNode {σ : State} (i : Inv σ) (n : NodeId) (x : Node) (hl : x.locals = (σ.node n).locals)
    (hp : ∀ p ∈ x.pending, p ∈ (σ.node n).pending) : Inv (σ.setNode n x) := by
  have el m : ((σ.setNode n x).node m).locals = (σ.node m).locals := by rw [setNode_node]; split <;> simp_all
  exact { i with
    localAdds := fun m s c => el m ▸ i.localAdds m s c
    pendAdds := fun m p h => i.pendAdds m p ((mem_pending_setNode h).elim (fun ⟨e, h⟩ => e ▸ hp p h) id)
    seen := fun m s c src t => el m ▸ i.seen m s c src t
    accounted := fun m s c => el m ▸ i.accounted m s c }

theorem Inv.announce {σ : State} (i : Inv σ) (n : NodeId) (s : ShardId) : Inv (step cfg σ (.announce n s)) := by
  simp only [step]
  cases hf : (σ.node n).pending.find? (fun p => p.1 == s) with
  | none => exact i
  | some p =>
    dsimp only
    have hp : p ∈ (σ.node n).pending := List.mem_of_find?_eq_some hf
    have hps : p.1 = s := by simpa using List.find?_some hf
    have hadd : (n, s, p.2) ∈ σ.adds := hps ▸ i.pendAdds n p hp
    have hclk : p.2 ≤ σ.clock := i.addsClock n s p.2 hadd
    generalize ht : (if cfg.stampAtBroadcast = true then σ.clock else p.2) = t
    obtain ⟨ht1, ht2⟩ : p.2 ≤ t ∧ t ≤ σ.clock := by rw [← ht]; split <;> simp [hclk]
    -- first the local bookkeeping (pending entry consumed, claim recorded), then the send
    have ia : Inv ({ σ.setNode n (pendNode (σ.node n) p) with claims := ⟨n, s, p.2, t⟩ :: σ.claims } : State) :=
      { i.setNode n (pendNode (σ.node n) p) rfl fun _ => List.mem_of_mem_erase with
        regFrom := fun a b c d h => ⟨(i.regFrom a b c d h).1, (i.regFrom a b c d h).2.imp fun _ => List.mem_cons_of_mem _⟩
        claimWf := fun k hk => by
          rcases List.mem_cons.1 hk with hk | hk
          · subst hk; exact ⟨ht1, ht2, hadd⟩
          · exact i.claimWf k hk }
    refine Inv.send ia (emit .register n s t (σ.node n)) ?_
    intro src s' t' dst h
    obtain ⟨d, hd, e⟩ := mem_emit h
    cases e
    exact ⟨ht2, fun x => hd x.symm, p.2, List.mem_cons_self⟩

theorem Inv.streamEnd {cfg : Cfg} {σ : State} (i : Inv σ) (n : NodeId) (s : ShardId) (c : Time) (id : Nat) :
    Inv (step cfg σ (.streamEnd n s c id)) := by
  rw [step_streamEnd]
  have i1 : Inv (endStream σ n s c) := by
    unfold endStream; split
    · next hc =>
      have hev : (unregister σ n s c).evicted = σ.evicted := by simp [unregister, hc]
      exact i.unregisterWith n s c hc (fun _ h => hev ▸ h)
        (fun _ => List.mem_cons_of_mem _) (fun a b c d h => i.evictedWhy a b c d (hev ▸ h)) (Or.inr List.mem_cons_self)
    · exact i
  unfold dropChan; split
  · exact i1.setNode n _ rfl fun _ h => h
  · exact i1

theorem evict_book_comm (σ : State) (it : Item) (keep : Bool) (dst s c t)
    (hl : aget (σ.node dst).locals s = some c) (hin : it ∈ σ.net) :
    evictSt (bookSt σ it keep) dst s c t = bookSt (evictSt σ dst s c t) it keep := by
  have hl2 : aget ((bookSt σ it keep).node dst).locals s = some c := hl
  simp only [evictSt, unregister, hl, hl2, if_true]
  cases keep
  · simp only [bookSt, State.send, State.setNode, Bool.false_eq_true, if_false]
    congr 1
    rw [List.erase_append_left _ hin]
  · rfl

theorem Inv.evict {σ : State} (i : Inv σ) (src dst : NodeId) (s : ShardId) (c t : Time)
    (hl : aget (σ.node dst).locals s = some c) (hlt : c < t) (hin : Item.ann .register src s t dst ∈ σ.net) :
    Inv (evictSt σ dst s c t) :=
  i.unregisterWith dst s c hl (fun _ => List.mem_cons_of_mem _) (fun _ h => by simpa [unregister, hl] using h)
    (fun n' s' c' t' h => by
      rcases List.mem_cons.1 h with h | h
      · cases h; exact ⟨hlt, src, Or.inl hin⟩
      · exact i.evictedWhy n' s' c' t' h)
    (Or.inl ⟨t, List.mem_cons_self⟩)

theorem Inv.notifyMsg {σ : State} (i : Inv σ) (src : NodeId) (kind : Kind) (s : ShardId) (t : Time) (dst : NodeId)
    (keep : Bool) (hin : Item.ann kind src s t dst ∈ σ.net) :
    Inv (notifyMsg (bookSt σ (Item.ann kind src s t dst) keep) kind s t dst) := by
  -- nothing is evicted: only the bookkeeping happens, and a holder is not older than the announcement
  have book (nb : ∀ c', aget (σ.node dst).locals s = some c' → t ≤ c') :
      Inv (bookSt σ (Item.ann kind src s t dst) keep) :=
    i.book _ keep hin fun | _, _, _, _, c', rfl, hl' => nb c' hl'
  fun_cases S2S.Gossip.notifyMsg (bookSt σ (Item.ann kind src s t dst) keep) kind s t dst
  · exact i.book _ keep hin nofun
  next c hlt hl _ =>
    -- evict first (the announcement is still in the net), then do the bookkeeping
    have hl : aget (σ.node dst).locals s = some c := hl
    have ie := i.evict src dst s c t hl hlt hin
    have hin' : Item.ann .register src s t dst ∈ (evictSt σ dst s c t).net := by
      simp only [evictSt, unregister, hl, if_true, send_net, setNode_net, List.mem_append]
      exact Or.inl hin
    have ib := ie.book _ keep hin' (by
      intro a b c' d e h hl'
      cases h
      simp only [evictSt, unregister, hl, if_true, send_node, setNode_node, aget_aerase] at hl'
      cases hl')
    rwa [← evict_book_comm σ _ keep dst s c t hl hin] at ib
  next c hlt hl => exact book fun c' h => by cases (show _ = some c from hl).symm.trans h; exact Nat.le_of_not_lt hlt
  next hl => exact book fun c' h => nomatch (show _ = none from hl).symm.trans h

theorem inv_step (cfg : Cfg) {σ : State} (i : Inv σ) (a : Act) : Inv (step cfg σ a) := by
  cases a with
  | tick => exact i.tick
  | add n s => exact i.add n s
  | announce n s => exact i.announce n s
  | streamEnd n s c id => exact i.streamEnd n s c id
  | deliver it keep =>
    rw [step_deliver]
    split
    · next hin =>
      cases it with
      | ann kind src s t dst => exact i.notifyMsg src kind s t dst keep hin
      | snap src tbl dst => exact (i.book _ keep hin nofun).setNode dst _ rfl fun _ h => h
    · exact i
  | snapshot n m => exact i.setNode m _ rfl fun _ h => h
  | snapSend n m => exact i.send _ (by simp)
  | leave m n => exact i.setNode m _ rfl fun _ h => h

theorem inv_run (cfg : Cfg) (acts : List Act) {σ : State} (i : Inv σ) : Inv (run cfg σ acts) :=
  run_induct (Q := fun σ _ => Inv σ) (fun i => inv_step cfg i _) acts σ i

theorem inv_reach (cfg : Cfg) (acts : List Act) : Inv (run cfg State.init acts) := inv_run cfg acts inv_init

end S2S.Gossip
