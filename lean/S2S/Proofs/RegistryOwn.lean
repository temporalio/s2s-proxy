import S2S.Proofs.RegistryRecv
/-!
C08: the local shard table (`localShards`, identity = registration time) — an entry always belongs to a sender between
`addLocalShard` and its `UnregisterShard` (`InvLocal`, every interleaving), and under `StampsOK` the stamp tells the
registrations of one shard apart (`InvStamp`), so that a clean-up removes only its own entries (`stolen_step`).  Then the base
all bundles share (`InvBase`) and the first bundle over it, `InvOwn` under `OwnHyp`.
-/
namespace S2S.Registry

/-- an entry of `localShards` belongs to a sender between `addLocalShard` and its `UnregisterShard`, with that stamp -/
def InvLocal : State → Prop :=
  Entry State.localShards (·.1) fun v x => x.stamp = v.2 ∧ x.spc.holdsLocal = true

/-- the stamp of an entry of `localShards` tells the sender that wrote it from every other registration of the shard -/
def InvStamp (σ : State) : Prop :=
  ∀ c t st i, aget σ.localShards c = some (t, st) → i < σ.next → (σ.inc i).shard = c → (σ.inc i).spc.stamped = true →
    (σ.inc i).stamp = st → i = t

theorem invLocal_step {c σ a σ'} (h : Step c σ a σ') (B : InvBound σ) (I : InvLocal σ) : InvLocal σ' := by
  cases ha : a.movesSend
  · intro c v; simp only [h.sendSame ha]; exact I c v
  have w := @h.writes
  cases h with
  | sAdd i hi =>
    refine I.write (w _ _ _ rfl) fun v hv => ?_
    simp [aget_aset] at hv; subst hv
    exact ⟨lt_next_of_spc B (by simp [hi]), by simp, by simp⟩
  | sUnregOwn i v s hi hg hs | sUnregAgainDel i hi hc =>
    exact I.write (w _ _ _ rfl) fun v hv => by simp [aget_adel] at hv
  | sUnregOther i v s hi hg hs | sUnregNone i hi hg =>
    -- the entry carries another stamp than `i`'s (or there is none), so it is not `i`'s
    exact I.keep (w _ _ _ rfl) rfl fun v' hv => by rintro rfl; have := (I _ v' hv).2.2.1; simp_all
  | _ =>
    all_goals first
      | exact Bool.noConfusion ha
      | (clear w; exact I.frame (by simp) (by simp) fun t ht => by simp <;> crush)

theorem InvStamp.frame {σ σ' : State} (I : InvStamp σ)
    (hr : ∀ c v, aget σ'.localShards c = some v → aget σ.localShards c = some v)
    (hi : ∀ j, j < σ'.next → (σ'.inc j).spc.stamped = true → j < σ.next ∧ (σ'.inc j).shard = (σ.inc j).shard ∧
      (σ.inc j).spc.stamped = true ∧ (σ'.inc j).stamp = (σ.inc j).stamp) : InvStamp σ' := by
  intro c t st i he hi' hs h1 h2
  obtain ⟨a1, a2, a3, a4⟩ := hi i hi' h1
  exact I c t st i (hr c _ he) a1 (a2 ▸ hs) a3 (a4 ▸ h2)

theorem invStamp_step {c σ a σ'} (h : Step c σ a σ') (hy : StampsOK σ a) (I : InvStamp σ) : InvStamp σ' := by
  cases ha : a.movesSend
  · intro c t st i; simp only [h.sendSame ha]; exact I c t st i
  cases h with
  | sAdd k hk =>
    intro c t st i he hi hs h1 h2
    simp [aget_aset] at he hi hs h1 h2
    by_cases e : k = i
    · subst e; simp at hs; simp [hs] at he; exact he.1
    · simp [e] at hs h1 h2
      split at he
      · -- the entry just written: another registration of the shard with the clock's value is what `StampsOK` excludes
        have := hy i hi (fun e' => e e'.symm) (by simp_all)
        simp_all
      · exact I c t st i he hi hs h1 h2
  | _ =>
    all_goals first
      | exact Bool.noConfusion ha
      | (refine I.frame (by simp [aget_adel]) fun j hj hs => ?_; simp at hj hs ⊢ <;> crush <;> omega)

theorem stolen_step {c σ a σ'} (h : Step c σ a σ') (hc2 : c.secondDelete = false) (B : InvBound σ)
    (T : InvStamp σ) (C : InvC σ) (A : InvA σ) (hs : σ.stolen = []) : σ'.stolen = [] := by
  cases h with
  | sUnregOwn i v st hi hget hst =>
    obtain rfl := T _ v st i hget (lt_next_of_spc B (by simp [hi])) rfl (by simp [hi]) hst.symm
    exact steal_stolen_nil (by simpa using hs) rfl
  | sUnregAgainDel i hi hsd => rw [hc2] at hsd; cases hsd
  | rRmOwnCancel i hi => exact steal_stolen_nil (by simpa using hs) (C i (by simp [hi]))
  | rUnregActive i hi => exact steal_stolen_nil (by simpa using hs) (A i (by simp [hi]))
  | _ => all_goals (first | exact hs | (simpa using hs))

/-- what `InvOwn`, `InvEnd` (RegistryEnd) and `InvAll` (RegistryLive) have in common; only the serial sections need a hypothesis
    on the run (`RecvOK`) -/
structure InvBase (σ : State) : Prop where
  u : InvU σ
  loc : InvLocal σ
  serial : InvSerial σ

theorem invBase_init : InvBase State.init :=
  ⟨invU_init, fun _ _ h => by simp [State.init, aget] at h, fun _ _ _ _ h => by simp [inc_init, RPc.sec] at h⟩

theorem invBase_step {c σ a σ'} (h : Step c σ a σ') (hc : c.cleanupUnconditional = false) (hy : RecvOK σ a)
    (I : InvBase σ) : InvBase σ' :=
  ⟨invU_step h I.u, invLocal_step h I.u.bound I.loc, invSerial_step h hc hy I.u.bound I.serial⟩

def OwnHyp (σ : State) (a : Act) : Prop := StampsOK σ a ∧ RecvOK σ a

structure InvOwn (σ : State) : Prop extends InvBase σ where
  stamp : InvStamp σ
  c : InvC σ
  found : InvFound σ
  a : InvA σ
  clean : σ.stolen = []

theorem invOwn_init : InvOwn State.init :=
  { invBase_init with
    stamp := fun _ _ _ _ h => by simp [State.init, aget] at h
    c := fun _ h => by simp [inc_init] at h
    found := fun _ _ _ _ h _ _ => by simp [inc_init] at h
    a := fun _ h => by simp [inc_init] at h
    clean := rfl }

/-- `R'`: the base after the step, which `invAll_step` proves once for both bundles that extend it -/
theorem invOwn_step {c σ a σ'} (h : Step c σ a σ') (hc : c.cleanupUnconditional = false) (hc2 : c.secondDelete = false)
    (hy : StampsOK σ a) (I : InvOwn σ) (R' : InvBase σ') : InvOwn σ' :=
  { R' with
    stamp := invStamp_step h hy I.stamp
    c := invC_step h hc I.serial I.found I.c
    found := invFound_step h I.serial I.c I.found
    a := invA_step h hc I.serial I.found I.a
    clean := stolen_step h hc2 I.u.bound I.stamp I.c I.a I.clean }

theorem invOwn_run {c : Cfg} (hc : c.cleanupUnconditional = false) (hc2 : c.secondDelete = false) (acts : List Act)
    (H : Along c OwnHyp State.init acts) : InvOwn (run c State.init acts) :=
  run_induct (H := OwnHyp) (fun _ _ _ h hy I => invOwn_step h hc hc2 hy.1 I (invBase_step h hc hy.2 I.toInvBase))
    acts State.init invOwn_init H

end S2S.Registry
