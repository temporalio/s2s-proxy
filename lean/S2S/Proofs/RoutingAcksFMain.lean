import S2S.Proofs.RoutingAcksFInv
import S2S.Proofs.RoutingFaultMain
/-!
C03F, runs.  `InvF` (C04 modulo the recorded findings) and `AF.HInv` hold in every state a
run with faults at any position reaches, under `EnvOKF`; the consequences for the acknowledgement history.
-/
namespace S2S.Routing

theorem AF.run_inv {c : Cfg} (hc : c.seedAcks = true) {σ : State} {γ : Ghost} {α : AckGhost} (hI : InvF σ γ)
    (hH : AF.HInv σ γ α) (acts : List Act) (henv : EnvOKF c σ γ acts) :
    InvF (run c σ acts) (runG c σ γ acts).2 ∧ AF.HInv (run c σ acts) (runG c σ γ acts).2 (runAG c σ α acts).2 := by
  fun_induction runG c σ γ acts generalizing α with
  | case1 => exact ⟨hI, hH⟩
  | case2 σ γ a rest ih =>
    rw [run_cons, runAG]
    suffices h : InvF ((step c σ a).getD σ) (γ.next c σ a) ∧
        AF.HInv ((step c σ a).getD σ) (γ.next c σ a) (α.next c σ a) from ih h.1 h.2 henv.2
    cases hstep : step c σ a with
    | none => rw [ghost_next_none γ hstep, ackGhost_next_none α hstep]; exact ⟨hI, hH⟩
    | some σ' =>
      rw [ghost_next_of_step γ hstep, ackGhost_next_of_step α hstep]
      have hI' : InvF σ' (γ.upd σ a) := step_invF hc hI henv.1 hstep
      exact ⟨hI', AF.step_hinv hI' hH henv.1 hstep⟩

theorem AF.run_firstInc (c : Cfg) (σ : State) (acts : List Act) (s : SId) (hF : AF.FirstInc (σ.src s))
    (hnb : NoSrcBreak s acts) : AF.FirstInc ((run c σ acts).src s) :=
  (foldl_getD_induct₂ (f := step c) (Q := fun σ r => AF.FirstInc (σ.src s) ∧ NoSrcBreak s r)
    (fun _ _ _ h _ => ⟨h.1, fun b hb => h.2 b (List.mem_cons_of_mem _ hb)⟩)
    (fun _ a _ _ h hs => ⟨AF.step_firstInc hs h.1 (h.2 a List.mem_cons_self), fun b hb => h.2 b (List.mem_cons_of_mem _ hb)⟩)
    acts σ ⟨hF, hnb⟩).1

theorem AF.Hist.first_mono {M : Int} {x : Source} {b : Nat} (h : AF.Hist M x b) (hi : x.inc ≤ 1) :
    x.acksSent.drop b = x.acksSent ∧ (x.acksSent.drop b).Pairwise (· ≤ ·) ∧
      (x.active = true → ∀ v ∈ x.acksSent.drop b, v ≤ x.lastHigh) := by
  obtain ⟨pre, post, h1, _, h3, h4, h5⟩ := h.split
  obtain rfl : b = 0 := (h.first hi).1
  obtain rfl : pre = [] := h5 hi
  rw [h1]
  exact ⟨h1.symm, h3, fun hact v hv => Int.le_trans ((h4 hact).1 v hv) ((h.first hi).2 hact).2⟩

theorem AF.hist_end (ns nt : Nat) (acts : List Act) (henv : EnvOKF Cfg.cur (State.init ns nt) {} acts)
    {σ σ' : State} {γ : AckGhost} {γG : Ghost} (hr : runAG Cfg.cur (State.init ns nt) {} acts = (σ, γ))
    (hg : runG Cfg.cur (State.init ns nt) {} acts = (σ', γG)) (s : SId) :
    (∀ v ∈ (σ.src s).acksSent, v ≤ γG.maxHighOf s) ∧ AF.Hist (γG.maxHighOf s) (σ.src s) (γ.baseOf s) := by
  simpa only [← runAG_state Cfg.cur _ {} acts, hr, hg] using
    (AF.run_inv cur_seedAcks (invF_init ns nt) (AF.hinv_init ns nt) acts henv).2 s

/-- active or not: a stream that was never opened has sent nothing -/
theorem AF.hist_end_noSrcBreak (ns nt : Nat) (acts : List Act) (henv : EnvOKF Cfg.cur (State.init ns nt) {} acts)
    {σ : State} {γ : AckGhost} (hr : runAG Cfg.cur (State.init ns nt) {} acts = (σ, γ)) (s : SId)
    (hnb : NoSrcBreak s acts) :
    curAcks σ γ s = (σ.src s).acksSent ∧ (curAcks σ γ s).Pairwise (· ≤ ·) ∧
      (∀ v ∈ curAcks σ γ s, v ≤ (σ.src s).lastHigh) := by
  have h := (AF.hist_end ns nt acts henv hr rfl s).2
  have hF : AF.FirstInc (σ.src s) := by
    have := AF.run_firstInc Cfg.cur (State.init ns nt) acts s (by rw [src_init]; exact ⟨Nat.zero_le _, fun _ => rfl⟩) hnb
    rw [← runAG_state Cfg.cur _ {} acts, hr] at this; exact this
  obtain ⟨h1, h2, h3⟩ := h.first_mono hF.1
  refine ⟨h1, h2, fun v hv => ?_⟩
  cases hact : (σ.src s).active with
  | true => exact h3 hact v hv
  | false => rw [show curAcks σ γ s = _ from h1, (h.zero (hF.2 hact)).2.2] at hv; cases hv

end S2S.Routing
