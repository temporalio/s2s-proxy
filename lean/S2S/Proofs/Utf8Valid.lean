import S2S.Proofs.Utf8Rune
/-!
`validUtf8` / `toValidUtf8`: what one step of the decoder does to each (a well-formed sequence is
consumed / kept, an ill-formed byte rejects / is replaced) and induction along the decoder; at the end
`repairInvalidUTF8InFailure` (chain repair) in closed form.
-/
namespace S2S.Utf8

/-- what is left after a decoded rune fits the fuel that is left: the rune's width is not 0 -/
theorem length_drop_le {s : Bytes} {n f : Nat} (hn : ¬ n = 0) (hf : s.length ≤ f + 1) : (s.drop n).length ≤ f := by
  rw [List.length_drop]; omega

theorem validGo_fuel : ∀ (f g : Nat) (s : Bytes), s.length ≤ f → s.length ≤ g → validGo f s = validGo g s
  | _, _, [], _, _ => by simp [validGo]
  | 0, _, _ :: _, hf, _ => by simp at hf
  | _, 0, _ :: _, _, hg => by simp at hg
  | f + 1, g + 1, b :: rest, hf, hg => by
    simp only [validGo]
    split
    · rfl
    · next hn => exact validGo_fuel f g _ (length_drop_le hn hf) (length_drop_le hn hg)

theorem toValidGo_fuel : ∀ (f g : Nat) (inv : Bool) (s : Bytes), s.length ≤ f → s.length ≤ g →
    toValidGo f inv s = toValidGo g inv s
  | _, _, _, [], _, _ => by simp [toValidGo]
  | 0, _, _, _ :: _, hf, _ => by simp at hf
  | _, 0, _, _ :: _, _, hg => by simp at hg
  | f + 1, g + 1, inv, b :: rest, hf, hg => by
    simp only [toValidGo]
    split
    · exact congrArg _ (toValidGo_fuel f g _ rest (Nat.le_of_succ_le_succ hf) (Nat.le_of_succ_le_succ hg))
    · next hn => exact congrArg _ (toValidGo_fuel f g _ _ (length_drop_le hn hf) (length_drop_le hn hg))

/-- `toValidGo` at full fuel, with the `invalid` flag exposed -/
def tv (inv : Bool) (s : Bytes) : Bytes := toValidGo s.length inv s

theorem toValidUtf8_eq_tv (s : Bytes) : toValidUtf8 s = tv false s := rfl

@[simp] theorem validUtf8_nil : validUtf8 [] = true := rfl

@[simp] theorem tv_nil (inv : Bool) : tv inv [] = [] := rfl

@[simp] theorem toValidUtf8_nil : toValidUtf8 [] = [] := rfl

theorem validUtf8_bad {b : UInt8} {t : Bytes} (h : runeLen (b :: t) = 0) : validUtf8 (b :: t) = false := by
  simp [validUtf8, validGo, h]

theorem validUtf8_rune {r : Bytes} (h : Rune r) (t : Bytes) : validUtf8 (r ++ t) = validUtf8 t := by
  have hl := h.decodes t
  obtain ⟨a, r, rfl⟩ := List.exists_cons_of_ne_nil h.ne_nil
  simp only [validUtf8, List.cons_append, List.length_cons, validGo] at hl ⊢
  rw [hl, if_neg (by simp), List.drop_succ_cons, List.drop_left]
  apply validGo_fuel <;> simp

theorem tv_bad {b : UInt8} {t : Bytes} (h : runeLen (b :: t) = 0) (inv : Bool) :
    tv inv (b :: t) = (if inv then [] else repl) ++ tv true t := by
  simp [tv, toValidGo, h]

theorem tv_rune {r : Bytes} (h : Rune r) (inv : Bool) (t : Bytes) : tv inv (r ++ t) = r ++ tv false t := by
  have hl := h.decodes t
  obtain ⟨a, r, rfl⟩ := List.exists_cons_of_ne_nil h.ne_nil
  simp only [tv, List.cons_append, List.length_cons, toValidGo] at hl ⊢
  rw [hl, if_neg (by simp), List.drop_succ_cons, List.drop_left, List.take_succ_cons, List.take_left,
    List.cons_append, toValidGo_fuel _ t.length] <;> simp

theorem tv_flag {s : Bytes} (h : s = [] ∨ 0 < runeLen s) (inv : Bool) : tv inv s = tv false s := by
  rcases h with rfl | h
  · rfl
  · obtain ⟨r, t, rfl, hr⟩ := exists_rune h
    rw [tv_rune hr, tv_rune hr]

/-- induction along the decoder: a byte string is empty, or begins with a well-formed sequence, or
    with a byte that is an ill-formed head (which Go decodes as RuneError of width 1) -/
theorem decode_induction {P : Bytes → Prop} (nil : P []) (rune : ∀ r t, Rune r → P t → P (r ++ t))
    (bad : ∀ b t, runeLen (b :: t) = 0 → P t → P (b :: t)) (s : Bytes) : P s := by
  generalize hn : s.length = n
  induction n using Nat.strongRecOn generalizing s with
  | _ n ih =>
    cases s with
    | nil => exact nil
    | cons b t =>
      rcases Nat.eq_zero_or_pos (runeLen (b :: t)) with h | h
      · exact bad b t h (ih _ (by simp [← hn]) t rfl)
      · obtain ⟨r, u, e, hr⟩ := exists_rune h
        rw [e]
        refine rune r u hr (ih _ ?_ u rfl)
        have := List.length_pos_iff.2 hr.ne_nil
        rw [← hn, e, List.length_append]; omega

/-- the concatenations of well-formed sequences: what `validUtf8` accepts (`validUtf8_iff`) -/
inductive Runes : Bytes → Prop
  | nil : Runes []
  | cons {r t : Bytes} : Rune r → Runes t → Runes (r ++ t)

theorem validUtf8_iff {s : Bytes} : validUtf8 s = true ↔ Runes s := by
  constructor
  · induction s using decode_induction with
    | nil => exact fun _ => .nil
    | rune r t hr ih => rw [validUtf8_rune hr]; exact fun hv => .cons hr (ih hv)
    | bad b t h => rw [validUtf8_bad h]; exact nofun
  · intro h
    induction h with
    | nil => rfl
    | cons hr _ ih => rw [validUtf8_rune hr, ih]

theorem toValidUtf8_valid_append (a b : Bytes) (hv : validUtf8 a = true) :
    toValidUtf8 (a ++ b) = a ++ toValidUtf8 b := by
  have h := validUtf8_iff.1 hv
  clear hv
  induction h with
  | nil => rfl
  | cons hr _ ih => rw [List.append_assoc, toValidUtf8_eq_tv, tv_rune hr, ← toValidUtf8_eq_tv, ih, List.append_assoc]

theorem toValidUtf8_of_valid {s : Bytes} (h : validUtf8 s = true) : toValidUtf8 s = s := by
  simpa using toValidUtf8_valid_append s [] h

theorem validUtf8_valid_append (a b : Bytes) (hv : validUtf8 a = true) : validUtf8 (a ++ b) = validUtf8 b := by
  have h := validUtf8_iff.1 hv
  clear hv
  induction h with
  | nil => rfl
  | cons hr _ ih => rw [List.append_assoc, validUtf8_rune hr, ih]

theorem tv_valid (s : Bytes) : ∀ inv, validUtf8 (tv inv s) = true := by
  induction s using decode_induction with
  | nil => intro _; rfl
  | rune r t hr ih => intro inv; rw [tv_rune hr, validUtf8_rune hr]; exact ih false
  | bad b t h ih =>
    intro inv
    rw [tv_bad h inv]
    cases inv
    · exact (validUtf8_valid_append repl _ rfl).trans (ih true)
    · exact ih true

theorem validUtf8_toValidUtf8 (s : Bytes) : validUtf8 (toValidUtf8 s) = true := tv_valid s false

theorem repairLoop_eq (budget : Nat) (chain : List Bytes) :
    repairLoop budget chain =
      ((chain.take budget).any (fun m => !validUtf8 m),
       (chain.take budget).map toValidUtf8 ++ chain.drop budget,
       decide (budget < chain.length)) := by
  fun_induction repairLoop budget chain <;> simp_all [toValidUtf8_of_valid]

theorem repairFailureChainFull_eq (chain : List Bytes) (bound : Nat) :
    repairFailureChainFull chain bound =
      { changed := (chain.take bound).any (fun m => !validUtf8 m),
        chain := (chain.take bound).map toValidUtf8 ++ chain.drop bound,
        err := if bound < chain.length then some .maxDepth else none } := by
  simp [repairFailureChainFull, repairLoop_eq]

theorem repairFailureChain_ok_of_le (chain : List Bytes) (bound : Nat) (h : chain.length ≤ bound) :
    repairFailureChain chain bound = .ok (chain.any (fun m => !validUtf8 m), chain.map toValidUtf8) := by
  have h1 : ¬ bound < chain.length := by omega
  simp [repairFailureChain, repairFailureChainFull_eq, h1, List.take_of_length_le h, List.drop_of_length_le h]

theorem repairFailureChain_error_of_gt (chain : List Bytes) (bound : Nat) (h : bound < chain.length) :
    repairFailureChain chain bound = .error .maxDepth := by
  simp [repairFailureChain, repairFailureChainFull_eq, h]

end S2S.Utf8
