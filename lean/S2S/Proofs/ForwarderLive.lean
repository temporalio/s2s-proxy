import S2S.Proofs.ForwarderCtl
/-!
C06 "ends together": every internal action strictly decreases the measure `mu`; `Ending` is stable; under
`GrpcStreamEnv` a quiescent state with `Ctl` in which no loop is blocked in `Send` is `Done` (everything gone) or
`Calm` (nothing ended).  Hence every maximal internal run from a state with an ending finishes `Done`, and the
scheduler `settle` with fuel `mu σ` is such a run.
-/
namespace S2S.Forwarder

theorem mu_setDir (σ : State) (d : D) (x : Dir) : mu (σ.setDir d x) + muD (σ.dir d) = mu σ + muD x := by
  cases d <;> simp only [mu, State.setDir, State.dir] <;> omega

/- Where the weights of `mu` come from (a queued event weighs 5):
   `lRecv` takes an event off the queue, −5, and goes 2 → 6 (a sticky one stays queued: 2 → 1); `lHand` turns
   `has` + `waiting` = 16 into `top` + `holding` = 14 (or 7), a sticky 11 into 7; `rSend` 11 → 10; everything that stops
   a loop lands on 3 or less.  `CloseSend` weighs `calling` 7 → `signalling` 1 so that `csReturn` can pay for the EOF it
   may queue (+5); `rDefer .i` (3 → 2) needs `cs = idle` (8 → 7), which is the hypothesis of `mu_decreases`. -/
theorem muD_dstep {σ : State} {d : D} {a : Act} {x' : Dir} (hs : DStep σ d a x') (ha : a.isInternal = true) :
    muD x' < muD (σ.dir d) := by
  cases hs with
  | push | sendFail | stall | unstall => cases ha
  | lRecv hl hr =>
    simp only [muD, hl]
    rcases recvResult_some hr with ⟨h3, h4⟩ | ⟨h3, h4⟩
    · simp only [muL, h3, h4, if_true]; omega
    · simp only [muL, h3, h4, List.length_cons]; simp; omega
  | @lHand v hl hw => simp only [muD, hl, hw]; cases v <;> simp [muL, muR, Ev.sticky, Ev.isData]
  | _ => simp only [muD, muL, muR, Ev.isData, *]; grind

/-- all that is needed of the state: `forwardAcks` reaches its deferred block before `CloseSend` was started -/
theorem mu_decreases {σ σ' : State} {a : Act} (hc : σ.i.loop = .finished → σ.cs = .idle) (ha : a.isInternal = true) (hs : Step σ a σ') :
    mu σ' < mu σ := by
  cases hs with
  | @dir d _ x' hd => have := mu_setDir σ d x'; have := muD_dstep hd ha; omega
  | iniCancel | shutdown | tick => cases ha
  | _ => simp only [mu, muD, muR, muC, muH, List.length_append, List.length_singleton, *]; omega

theorem mu_decreases_ctl {σ σ' : State} {a : Act} (hc : Ctl σ) (ha : a.isInternal = true)
    (hs : Step σ a σ') : mu σ' < mu σ :=
  mu_decreases (fun h => hc.cs_idle (by simp [h])) ha hs

theorem ending_setDir {σ : State} {d : D} {x : Dir} (h : Ending σ)
    (hx : (σ.dir d).ending = true → x.ending = true) : Ending (σ.setDir d x) := by
  cases d <;> simp only [Ending, ending, State.setDir, State.dir] at h hx ⊢ <;> grind

/- Why `Dir.ending` is stable: each disjunct either persists or hands over to the next one.  A non-message in the queue
   moves into the listener's hand (`lRecv`), from there into the loop (`lHand`), which it stops (`loop.alive = false`);
   an exited listener and a stopped loop stay so.  `sendFails ∧ pendingData` survives because the pending message only
   moves queue → listener → loop, `sendFails` is never reset, and `rSend`, the one action that would deliver it, needs
   `sendFails = false`.  The global actions set a flag of `ending`, stop a loop, or only append to a queue. -/
theorem ending_dstep {σ : State} {d : D} {a : Act} {x' : Dir} (hs : DStep σ d a x') (h : (σ.dir d).ending = true) :
    x'.ending = true := by
  revert h
  cases hs with
  | stall | unstall => exact id
  | lRecv hl hr =>
    simp only [Dir.ending, Dir.pendingData, hl]
    rcases recvResult_some hr with ⟨h3, h4⟩ | ⟨h3, h4⟩
    · simp [sticky_not_data h3]
    · rw [h4]; simp only [List.any_cons]; grind
  | rSend hh hok =>
    have hsf : (σ.dir d).sendFails = false := by
      cases d <;> simp only [sendOk, State.dir] at hok ⊢ <;> grind
    simp only [Dir.ending, Dir.pendingData, hh, hsf, RPc.alive, Ev.isData]
    grind
  | _ => simp only [Dir.ending, Dir.pendingData, List.any_append, RPc.alive, *]; grind

theorem ending_step {σ σ' : State} {a : Act} (h : Ending σ) (hs : Step σ a σ') : Ending σ' := by
  cases hs with
  | dir hd => exact ending_setDir h (ending_dstep hd)
  | iniCancel | rDeferS | rDeferI | hCancel => simp [Ending, ending]
  | shutdown | hReturn => simp only [Ending, ending] at h ⊢; grind
  | tick | guardRecv => simp [Ending, ending, Dir.ending, RPc.alive]
  | csUnblocked | csIgnored => exact h
  | csReturn =>
    refine ending_setDir (σ := { σ with cs := .signalling }) (d := .s) h ?_
    simp only [State.dir, Dir.ending, Dir.pendingData, List.any_append]; grind

theorem ending_run (acts : List Act) {σ : State} (h : Ending σ) : Ending (run σ acts) :=
  run_induct ending_step acts σ h

/-- nothing has ended and nothing is pending: every worker is parked where it waits for the peers -/
def Calm (σ : State) : Prop :=
  σ.latch = false ∧ σ.s.loop = .waiting ∧ σ.i.loop = .waiting ∧ σ.s.lis = .inRecv ∧ σ.i.lis = .inRecv ∧
  σ.s.queue = [] ∧ σ.i.queue = [] ∧ σ.srvCtx = false ∧ σ.connClosed = false ∧ σ.outCtx = false

theorem calm_not_ending {σ : State} (h : Calm σ) : ¬ Ending σ := by
  simp_all [Calm, Ending, ending, Dir.ending, Dir.pendingData, RPc.alive]

theorem Quiescent.not_step {σ σ' : State} {a : Act} (hq : Quiescent σ) (ha : a.isInternal = true) (hs : Step σ a σ') : False := by
  have := hs.to_step
  rw [hq a ha] at this
  cases this

theorem Quiescent.blocked {σ : State} {d : D} {v : Ev} (hq : Quiescent σ) (hc : (σ.dir d).loop = .holding v) :
    blockedInSend σ d = true := by
  cases v with
  | data i =>
    cases hok : sendOk σ d with
    | false => exact (hq.not_step rfl (.dir (.rStop hc (.inr hok)))).elim
    | true =>
      cases hst : (σ.dir d).stalled with
      | false => exact (hq.not_step rfl (.dir (.rSend hc hok hst))).elim
      | true => simp [blockedInSend, hc, hok, hst, Ev.isData]
  | _ => exact (hq.not_step rfl (.dir (.rStop hc (.inl rfl)))).elim

theorem Quiescent.loop {σ : State} {d : D} (hc : Ctl σ) (he : σ.env.closeSendHangs = false) (hq : Quiescent σ)
    (hb : blockedInSend σ d = false) : (σ.dir d).loop = if σ.latch then .done else .waiting := by
  cases hs : (σ.dir d).loop with
  | waiting =>
    cases hl : σ.latch with
    | false => rfl
    | true => exact (hq.not_step rfl (.dir (.rLatch hs hl))).elim
  | holding v => rw [hq.blocked hs] at hb; cases hb
  | finished =>
    cases d
    · exact (hq.not_step rfl (.rDeferS hs)).elim
    · exact (hq.not_step rfl (.rDeferI hs)).elim
  | guard =>
    cases d
    · exact absurd hs hc.guardOnlyI
    · rcases hc.guard_cs hs with hcs | hcs
      · cases hy : σ.env.answersCloseSend && !σ.s.queue.any Ev.sticky with
        | false => exact (hq.not_step rfl (.csIgnored hcs he hy)).elim
        | true => exact (hq.not_step rfl (.csReturn hcs he hy)).elim
      · exact (hq.not_step rfl (.guardRecv hcs hs)).elim
  | done =>
    cases d
    · rw [hc.latch_of (.inl hs)]; rfl
    · rw [hc.latch_of (.inr (.inr hs))]; rfl

theorem Quiescent.lis {σ : State} {d : D} (hq : Quiescent σ) (hw : (σ.dir d).loop = if σ.latch then .done else .waiting) :
    ((σ.dir d).lis = .inRecv ∧ cut σ d = false ∧ (σ.dir d).queue = []) ∨ (σ.dir d).lis = .exited := by
  cases hs : (σ.dir d).lis with
  | top => exact (hq.not_step rfl (.dir (.lCheck hs))).elim
  | inRecv =>
    cases hr : recvResult σ d with
    | none => exact .inl ⟨rfl, recvResult_none hr⟩
    | some p => exact (hq.not_step rfl (.dir (.lRecv (v := p.1) (q := p.2) hs hr))).elim
  | has v =>
    -- a value in hand goes to the waiting loop, or the listener quits on the latch
    cases hl : σ.latch with
    | false => rw [hl] at hw; exact (hq.not_step rfl (.dir (.lHand hs hw))).elim
    | true => exact (hq.not_step rfl (.dir (.lQuit hs hl))).elim
  | exited => exact .inr rfl

theorem quiescent_cases {σ : State} (hc : Ctl σ) (henv : GrpcStreamEnv σ.env) (hq : Quiescent σ)
    (hb : ∀ d, blockedInSend σ d = false) : Done σ ∨ Calm σ := by
  obtain ⟨e1, e2, e3⟩ := henv
  have loop d := hq.loop hc e3 (hb d)
  have lis d := hq.lis (loop d)
  cases hl : σ.latch with
  | true =>
    simp only [hl, ↓reduceIte] at loop
    have cse : σ.cs = .exited := hc.done_cs_exited (loop .i) e3
    have hh : σ.h = .returned := by
      cases hs : σ.h with
      | waiting => exact (hq.not_step rfl (.hCancel hs (loop .s) (loop .i))).elim
      | cancelled => exact (hq.not_step rfl (.hReturn hs)).elim
      | returned => rfl
    have ho : σ.outCtx = true := hc.handler_after_wait (by simp [hh])
    have hsrv : σ.srvCtx = true := hc.returned_cancels hh e2
    have lis d : (σ.dir d).lis = .exited :=
      (lis d).resolve_left fun ⟨_, h, _⟩ => by cases d <;> simp [cut, ho, e1, hsrv] at h
    exact .inl ⟨loop .s, loop .i, hl, by simp [cse], ho, hh, lis .s, lis .i, cse⟩
  | false =>
    simp only [hl] at loop
    have lis d := (lis d).resolve_right fun h => by have := hc.lisExit_latch d h; rw [hl] at this; cases this
    obtain ⟨ls, cs, qs⟩ := lis .s
    obtain ⟨li, ci, qi⟩ := lis .i
    simp only [cut, e1, Bool.and_true, Bool.or_eq_false_iff] at cs ci
    exact .inr ⟨hl, loop .s, loop .i, ls, li, qs, qi, ci, cs.1, cs.2.1⟩

theorem done_not_blocked {σ : State} (h : Done σ) (d : D) : blockedInSend σ d = false := by
  obtain ⟨h1, h2, _⟩ := h
  cases d <;> simp [blockedInSend, State.dir, h1, h2]

theorem quiescent_ending_done_iff {σ : State} (hc : Ctl σ) (henv : GrpcStreamEnv σ.env) (he : Ending σ)
    (hq : Quiescent σ) : Done σ ↔ ∀ d, blockedInSend σ d = false :=
  ⟨done_not_blocked, fun hb => (quiescent_cases hc henv hq hb).resolve_right fun h => calm_not_ending h he⟩

theorem noSendCanBlock_not_blocked {σ : State} (h : NoSendCanBlock σ) (d : D) : blockedInSend σ d = false := by
  have h' : (σ.dir d).stalled = true → sendOk σ d = false := by
    cases d
    · exact h.1
    · exact h.2
  unfold blockedInSend
  cases hs : (σ.dir d).stalled with
  | false => simp
  | true => simp [h' hs]

theorem unstalled_noSendCanBlock {σ : State} (h : Unstalled σ) : NoSendCanBlock σ := by
  obtain ⟨h1, h2⟩ := h
  constructor <;> intro hs <;> simp_all

theorem unstalled_not_blocked {σ : State} (h : Unstalled σ) (d : D) : blockedInSend σ d = false :=
  noSendCanBlock_not_blocked (unstalled_noSendCanBlock h) d

theorem NoSendCanBlock.setDir {σ : State} {d : D} {x : Dir} (h : NoSendCanBlock σ)
    (hst : x.stalled = true → (σ.dir d).stalled = true) (hsf : (σ.dir d).sendFails = true → x.sendFails = true) :
    NoSendCanBlock (σ.setDir d x) := by
  cases d <;> simp only [NoSendCanBlock, sendOk, State.setDir, State.dir] at h hst hsf ⊢ <;> grind

theorem noSendCanBlock_step {σ σ' : State} {a : Act} (h : NoSendCanBlock σ) (hs : Step σ a σ')
    (ha : ∀ d, a ≠ .stall d) : NoSendCanBlock σ' := by
  cases hs with
  | dir hd =>
    cases hd with
    | stall => exact absurd rfl (ha _)
    | unstall => exact h.setDir nofun id
    | sendFail => exact h.setDir id fun _ => rfl
    | _ => exact h.setDir id id
  -- the contexts and the connection are only ever cancelled resp. closed, and that makes a `Send` fail
  | iniCancel | shutdown | hCancel | hReturn => simp only [NoSendCanBlock, sendOk] at h ⊢; grind
  | _ => exact h

theorem noSendCanBlock_run (acts : List Act) {σ : State} (h : NoSendCanBlock σ) (ha : ∀ d, Act.stall d ∉ acts) :
    NoSendCanBlock (run σ acts) :=
  (foldl_getD_induct₂ (Q := fun σ r => NoSendCanBlock σ ∧ ∀ d, Act.stall d ∉ r)
    (fun _ _ _ h _ => ⟨h.1, fun d hm => h.2 d (List.mem_cons_of_mem _ hm)⟩)
    (fun _ _ _ _ h hs => ⟨noSendCanBlock_step h.1 (.of_step hs) fun d e => h.2 d (e ▸ List.mem_cons_self),
      fun d hm => h.2 d (List.mem_cons_of_mem _ hm)⟩) acts σ ⟨h, ha⟩).1

theorem settle_quiescent (fuel : Nat) (σ : State) (hc : Ctl σ) (hm : mu σ ≤ fuel) : Quiescent (settle fuel σ) := by
  fun_induction settle fuel σ with
  | case1 σ =>
    intro a ha
    cases hs : step σ a with
    | none => rfl
    | some σ' => have := mu_decreases_ctl hc ha (.of_step hs); omega
  | case2 fuel σ σ' hf ih =>
    obtain ⟨a, ha, hs⟩ := firstEnabled_some hf
    have hs := Step.of_step hs
    have := mu_decreases_ctl hc (mem_internalActs.1 ha) hs
    exact ih (ctl_step hc hs) (by omega)
  | case3 fuel σ hf => exact quiescent_of_firstEnabled_none hf

end S2S.Forwarder
