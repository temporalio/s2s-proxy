import S2S.Proofs.RingRel
import S2S.Proofs.OptMax
/-!
`AggregateUpTo`: the loop as a fold over the logical contents, its key-uniqueness, and the
value it yields per key (the maximum of the matching tasks).
-/
namespace S2S.Ring

theorem wrap64_eq {x : Int} (h1 : x < two63) (h2 : -two63 ≤ x) : wrap64 x = x := by
  unfold wrap64
  unfold two63 at *
  unfold two64
  omega

def aggStep (acc : List (Key × Int)) (m : Entry) : List (Key × Int) :=
  if m.isHole then acc else aggInsert acc m.key m.task

theorem aggLoop_eq_map (b : Buf) (count : Nat) :
    b.aggLoop count = ((List.range count).map b.at).foldl aggStep [] := by
  unfold Buf.aggLoop; rw [List.foldl_map]; rfl

theorem aggLoop_min (b : Buf) (count : Nat) :
    b.aggLoop (min count b.size) = (b.items.take count).foldl aggStep [] := by
  unfold Buf.items
  rw [aggLoop_eq_map, ← List.map_take, List.take_range]

theorem aggregate_fst (b : Buf) (w : Int) : (b.aggregate w).1 = b.aggLoop (b.aggregate w).2 := by
  fun_cases Buf.aggregate b w <;> rfl

/-- Of "the count does not wrap" only the upper bound matters, and only for a non-empty window: an empty ring and a
    watermark below `start` are answered before any int64 arithmetic, and above `start` the count is positive. -/
theorem aggregate_snd (b : Buf) (w : Int) (hw : b.size = 0 ∨ w - b.start + 1 < two63) :
    (b.aggregate w).2 = min (w - b.start + 1).toNat b.size := by
  unfold Buf.aggregate
  split
  · next h0 => simp [h0]
  split
  · next h1 => simp [show (w - b.start + 1).toNat = 0 by omega]
  next h0 h1 =>
  rw [wrap64_eq (hw.resolve_left h0) (by unfold two63; omega)]
  simp only [if_neg (show ¬ (w - b.start + 1 ≤ 0) by omega), clamp_eq_min]

theorem aggInsert_keys (acc : List (Key × Int)) (k : Key) (v : Int) :
    (aggInsert acc k v).map (·.1) = if k ∈ acc.map (·.1) then acc.map (·.1) else acc.map (·.1) ++ [k] := by
  fun_induction aggInsert acc k v
  · rfl
  · simp [*]
  · rename_i h ih
    simp only [List.map_cons, ih, List.mem_cons, Ne.symm h, false_or]
    split <;> rfl

theorem aggInsert_nodup {acc : List (Key × Int)} (k : Key) (v : Int)
    (h : (acc.map (·.1)).Nodup) : ((aggInsert acc k v).map (·.1)).Nodup := by
  rw [aggInsert_keys]
  split
  · exact h
  · next hk =>
    refine List.nodup_append.2 ⟨h, List.nodup_cons.2 ⟨List.not_mem_nil, List.nodup_nil⟩, fun a ha b hb => ?_⟩
    rw [List.mem_singleton.1 hb]; exact fun e => hk (e ▸ ha)

theorem aggStep_nodup {acc : List (Key × Int)} (m : Entry)
    (h : (acc.map (·.1)).Nodup) : ((aggStep acc m).map (·.1)).Nodup := by
  unfold aggStep
  split
  · exact h
  · exact aggInsert_nodup _ _ h

theorem aggLoop_nodup (b : Buf) (count : Nat) : ((b.aggLoop count).map (·.1)).Nodup := by
  rw [aggLoop_eq_map]
  exact List.foldlRecOn (motive := fun (acc : List (Key × Int)) => (acc.map Prod.fst).Nodup) _ _ List.nodup_nil
    fun acc h m _ => aggStep_nodup m h

theorem aggregate_nodup (b : Buf) (w : Int) : ((b.aggregate w).1.map (·.1)).Nodup := by
  rw [aggregate_fst]; exact aggLoop_nodup b _

theorem lookup_cons_ite (k' : Key) (v' : Int) (l : List (Key × Int)) (k : Key) :
    ((k', v') :: l).lookup k = if k' = k then some v' else l.lookup k := by
  rw [List.lookup_cons]
  by_cases h : k' = k
  · simp [h]
  · rw [beq_eq_false_iff_ne.2 (Ne.symm h), if_neg h]

theorem lookup_aggInsert (acc : List (Key × Int)) (k' : Key) (v : Int) (k : Key) :
    (aggInsert acc k' v).lookup k =
      if k' = k then some (omax (acc.lookup k) v) else acc.lookup k := by
  fun_induction aggInsert acc k' v <;> simp only [lookup_cons_ite, List.lookup_nil, *]
  · rfl
  · split
    · rw [omax_some]
    · rfl
  · next h1 _ =>
    split
    · next h => rw [if_neg (h ▸ Ne.symm h1)]
    · rfl

/-- the original ids (tasks) of the non-hole entries with key `k` -/
def tasksOf (k : Key) (ys : List Entry) : List Int :=
  (ys.filter (fun e => !e.isHole && decide (e.key = k))).map (·.task)

theorem tasksOf_cons (k : Key) (e : Entry) (es : List Entry) :
    tasksOf k (e :: es) =
      if (!e.isHole && decide (e.key = k)) = true then e.task :: tasksOf k es else tasksOf k es := by
  unfold tasksOf
  rw [List.filter_cons]
  split <;> rfl

theorem lookup_aggStep (acc : List (Key × Int)) (m : Entry) (k : Key) :
    (aggStep acc m).lookup k =
      if (!m.isHole && decide (m.key = k)) = true then some (omax (acc.lookup k) m.task)
      else acc.lookup k := by
  fun_cases aggStep acc m <;> simp [*, lookup_aggInsert]

theorem lookup_fold_eq_max (k : Key) (ys : List Entry) :
    (ys.foldl aggStep []).lookup k = (tasksOf k ys).max? := by
  rw [foldl_look_omax (·.lookup k) aggStep _ (·.task) fun acc m => lookup_aggStep acc m k, List.lookup_nil, foldl_omax_none]
  rfl

theorem pairsOf_filter_le (s w : Int) (xs : List Entry) :
    (pairsOf s xs).filter (fun x => decide (x.1 ≤ w)) = pairsOf s (xs.take (w - s + 1).toNat) := by
  induction xs generalizing s with
  | nil => simp
  | cons e es ih =>
    by_cases hw : w < s
    · rw [show (w - s + 1).toNat = 0 by omega, List.take_zero, pairsOf_nil, List.filter_eq_nil_iff]
      intro x hx
      have := pairsOf_mem_ge hx
      simp only [decide_eq_true_eq]; omega
    · rw [show (w - s + 1).toNat = (w - (s + 1) + 1).toNat + 1 by omega, List.take_succ_cons, pairsOf_cons,
        pairsOf_cons, List.filter_append, ih]
      congr 1
      split
      · rfl
      · rw [List.filter_cons_of_pos (by simp only [decide_eq_true_eq]; omega)]; rfl

theorem pairsOf_filter_key (s : Int) (k : Key) (ys : List Entry) :
    ((pairsOf s ys).filter (fun x => decide (x.2.key = k))).map (fun x => x.2.task) = tasksOf k ys := by
  induction ys generalizing s with
  | nil => rfl
  | cons e es ih =>
    rw [pairsOf_cons, List.filter_append, List.map_append, ih, tasksOf_cons]
    cases e.isHole <;> by_cases hk : e.key = k <;> simp [hk]

theorem expected_of_out {s : Int} {xs : List Entry} {r : Ref} (h : pairsOf s xs = r.out) (w : Int) (k : Key) :
    r.expected w k = (tasksOf k (xs.take (w - s + 1).toNat)).max? := by
  unfold Ref.expected
  rw [← h, ← pairsOf_filter_key s, ← pairsOf_filter_le, List.filter_filter]
  simp only [Bool.and_comm]

/-- the count `AggregateUpTo w` computes does not wrap -/
def NoWrap (r : Ref) (w : Int) : Prop := r.hi = r.lo ∨ w - r.lo + 1 < two63

theorem NoOverflow.noWrap {r : Ref} {w : Int} (h : NoOverflow r w) : NoWrap r w := Or.inr h.1

theorem Rel.noWrap {b : Buf} {r : Ref} (h : Rel b r) {w : Int} (hw : NoWrap r w) :
    b.size = 0 ∨ w - b.start + 1 < two63 := by
  rw [h.start]
  refine hw.imp (fun e => ?_) id
  have := h.size
  omega

theorem Rel.aggregate_exact {b : Buf} {r : Ref} (h : Rel b r) {w : Int} (hw : NoWrap r w) (k : Key) :
    (b.aggregate w).1.lookup k = r.expected w k := by
  rw [aggregate_fst, aggregate_snd _ w (h.noWrap hw), aggLoop_min, lookup_fold_eq_max, expected_of_out h.out]

theorem expectedCount_eq {r : Ref} {len : Nat} (h : r.hi = r.lo + (len : Int)) (w : Int) :
    r.expectedCount w = min (w - r.lo + 1).toNat len := by
  fun_cases Ref.expectedCount r w <;> omega

theorem Rel.aggregate_count {b : Buf} {r : Ref} (h : Rel b r) {w : Int} (hw : NoWrap r w) :
    (b.aggregate w).2 = r.expectedCount w := by
  rw [aggregate_snd _ w (h.noWrap hw), expectedCount_eq h.size, h.start]

end S2S.Ring
