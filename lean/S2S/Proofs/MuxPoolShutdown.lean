import S2S.Proofs.MuxPoolInv
/-! Shutdown (C10): after `Cancel` every execution is finite, and a maximal one ends with everything
closed — provided no step abandoned an open resource (`leakStep`), which the `fixed` defects exclude. -/
namespace S2S.MuxPool

/-- every connection that is still open (conn or session) is still owned by someone who will close it -/
def CleanL (l : List Conn) : Prop := ∀ x ∈ l, x.isOpen = true → x.stage.isOwned = true

theorem cleanL_set {σ : St} {c : Nat} {x' : Conn} (h : CleanL σ.conns) (hx : x'.isOpen = true → x'.stage.isOwned = true) :
    CleanL (σ.setConn c x').conns :=
  fun y hy => (mem_setConn hy).elim (· ▸ hx) (h y)

theorem cleanL_push {l : List Conn} (h : CleanL l) : CleanL (l ++ [({} : Conn)]) :=
  fun y hy => (List.mem_append.1 hy).elim (h y) fun hy => List.mem_singleton.1 hy ▸ fun _ => rfl

theorem clean_step {d : Defects} {σ σ' : St} {a : Act} (hc : CleanL σ.conns)
    (hs : Step d σ a σ') (hnl : leakStep d σ a = false) : CleanL σ'.conns := by
  cases hs with
  | acquire | acquireFail | connErrDead | connErr | pingOk | cancel | onClose => exact hc
  | connOk => exact cleanL_push hc
  | sessErrDead | sessErr | sessOk | pingErrDead | pingErr | addDead | add | peerClose | localClose | cleanup =>
    apply cleanL_set hc
    simp [leakStep, Conn.isOpen, Conn.closeBoth, Stage.isOwned, *] at hnl ⊢ <;> try (split <;> simp_all)
  -- an open entry is owned, a cleaned-up one is not
  | release hst hlen => exact cleanL_set hc fun h => by simpa [hst, Stage.isOwned] using hc _ (conn_mem hlen) h

theorem leakStep_fixed (σ : St) (a : Act) : leakStep Defects.fixed σ a = false := by
  fun_cases leakStep Defects.fixed σ a <;> simp [Defects.fixed]

theorem noLeakAlong_fixed (acts : List Act) (σ : St) : noLeakAlong Defects.fixed σ acts = true := by
  induction acts generalizing σ with
  | nil => rfl
  | cons a r ih => simp [noLeakAlong, leakStep_fixed, ih]

theorem clean_run (d : Defects) (acts : List Act) {σ : St} (hc : CleanL σ.conns)
    (hnl : noLeakAlong d σ acts = true) : CleanL (run d σ acts).conns :=
  (foldl_getD_induct₂ (Q := fun (τ : St) r => CleanL τ.conns ∧ noLeakAlong d τ r = true)
    (fun _ _ _ h hs => ⟨h.1, by have := h.2; simp only [noLeakAlong, hs, Option.getD_none, Bool.and_eq_true] at this; exact this.2⟩)
    (fun _ _ _ _ h hs => by
      have := h.2; simp only [noLeakAlong, hs, Option.getD_some, Bool.and_eq_true, Bool.not_eq_true'] at this
      exact ⟨clean_step h.1 (.of_step hs) this.1, this.2⟩) acts σ ⟨hc, hnl⟩).1

theorem terminal_iff {σ : St} : σ.terminal = true ↔ σ.phase = .exited ∧ σ.mgrClosed = true ∧ σ.live = false ∧
    ∀ x ∈ σ.conns, x.stage.isHeld = false := by
  simp [St.terminal, Stage.isHeld, and_assoc]

theorem terminal_of_maximal {d : Defects} {σ : St} (hl : σ.live = false) (hmax : Maximal d σ) : σ.terminal = true := by
  have stuck {a σ'} (ha : obligatory a = true) (hs : Step d σ a σ') : False := hs.not_none (hmax a ha)
  have hph : σ.phase = .exited := by
    cases hp : σ.phase with
    | idle => exact (stuck rfl (.acquireFail hp hl)).elim
    | acquired => exact (stuck rfl (.connErrDead hp hl)).elim
    | haveConn c => exact (stuck rfl (.sessOk hp)).elim
    | haveSession c => exact (stuck (a := .pingErr .other) rfl (.pingErrDead hp hl)).elim
    | pinged c => exact (stuck rfl (.addDead hp hl)).elim
    | exited => rfl
  refine terminal_iff.2 ⟨hph, ?_, hl, fun x hx => ?_⟩
  · cases hm : σ.mgrClosed with
    | true => rfl
    | false => exact (stuck rfl (.onClose hph hl hm)).elim
  · obtain ⟨c, hc, rfl⟩ := exists_index_of_mem hx
    cases hst : (σ.conn c).stage with
    | registered mid => exact (stuck rfl (.cleanup hst hc (by simp [Conn.dying, hl]))).elim
    | cleaned mid => exact (stuck rfl (.release hst hc)).elim
    | _ => rfl

theorem terminal_allClosed {σ : St} (hi : Inv σ) (hc : CleanL σ.conns) (hph : σ.phase = .exited)
    (hnr : ∀ x ∈ σ.conns, x.stage.isHeld = false) :
    σ.allClosed = true ∧ σ.registered = [] := by
  have hatt := hi.nAtt
  simp only [St.cntS, hph, Phase.held, Option.isSome_none, Bool.toNat_false, List.countP_eq_zero] at hatt
  constructor
  · simp only [St.allClosed, List.all_eq_true]
    intro x hx
    cases ho : x.isOpen with
    | false => simp [Conn.isOpen] at ho; simp [ho]
    | true =>
      have hown := hc x hx ho
      have h1 := hatt x hx
      have h3 := hnr x hx
      cases hst : x.stage <;> simp [hst, Stage.isOwned, Stage.isAttempt, Stage.isHeld, Stage.isRegistered] at hown h1 h3
  · simp only [St.registered, List.filterMap_eq_nil_iff]
    intro x hx
    have h3 := hnr x hx
    cases hst : x.stage <;> simp [hst, Stage.isHeld, Stage.isRegistered] at h3 ⊢

theorem shutdown_clean (d : Defects) (n : Nat) (r : Role) (acts : List Act)
    (hnl : noLeakAlong d (St.init n r) acts = true)
    (hl : (run d (St.init n r) acts).live = false) (hmax : Maximal d (run d (St.init n r) acts)) :
    (run d (St.init n r) acts).allClosed = true ∧ (run d (St.init n r) acts).registered = [] ∧
    (run d (St.init n r) acts).mgrClosed = true := by
  have hi := inv_reach d n r acts
  have hc : CleanL (run d (St.init n r) acts).conns :=
    clean_run d acts (by intro x hx; simp [St.init] at hx) hnl
  obtain ⟨h1, h2, -, h3⟩ := terminal_iff.1 (terminal_of_maximal hl hmax)
  obtain ⟨h4, h5⟩ := terminal_allClosed hi hc h1 h3
  exact ⟨h4, h5, h2⟩

theorem maximal_of_terminal (d : Defects) {σ : St} (h : σ.terminal = true) : Maximal d σ := by
  obtain ⟨hph, hmc, hl, hall⟩ := terminal_iff.1 h
  refine fun a ha => Option.eq_none_iff_forall_ne_some.2 fun σ' hs => ?_
  cases Step.of_step hs with
  | cleanup hst hlen | release hst hlen => have := hall _ (conn_mem hlen); rw [hst] at this; cases this
  | peerClose | localClose | cancel => cases ha
  | _ => simp_all

attribute [local simp] shutMeasure Phase.shutRank shutWeight St.setConn Conn.closeBoth Conn.dying wsum_append wsum in
theorem shut_decrease {d : Defects} {σ σ' : St} {a : Act} (hi : Inv σ) (hl : σ.live = false)
    (hs : Step d σ a σ') : shutMeasure σ' < shutMeasure σ ∧ σ'.live = false := by
  refine ⟨?_, by rcases hs.live with h | ⟨_, h⟩ <;> first | exact h ▸ hl | exact h⟩
  cases hs with
  | acquire _ hl' | connErr _ hl' | sessErr _ hl' | pingErr _ hl' | add _ hl' | cancel hl' => rw [hl] at hl'; cases hl'
  -- the provider's rank drops (`onClose`: the manager's unit), the table is untouched
  | acquireFail | connErrDead | connOk | pingOk | onClose => simp [*]
  -- the provider returns holding the attempt: rank 6 → 0 (4 → 0), the abandoned entry weighs no more than before
  | @sessErrDead c hp | @pingErrDead c _ hp =>
    obtain ⟨hlen, hst⟩ := hi.ptr c _ (congrArg Phase.held hp)
    refine wsum_lt_of hlen rfl ?_; cases hd : d.exitLeaksAttempt <;> simp [*] <;> omega
  -- rank 6 → 4 pays for the session that opens (+1)
  | @sessOk c hp =>
    obtain ⟨hlen, hst⟩ := hi.ptr c _ (congrArg Phase.held hp)
    refine wsum_lt_of hlen rfl ?_; simp [*] <;> omega
  -- rank 3 → 1
  | @addDead c hp =>
    obtain ⟨hlen, hst⟩ := hi.ptr c _ (congrArg Phase.held hp)
    refine wsum_lt_of hlen rfl ?_; cases hd : d.lateAddLeaks <;> simp [*] <;> omega
  -- the entry's own weight drops: the open session (1), the live context (1), registered → cleaned → released
  | peerClose hlen => refine wsum_lt_of hlen rfl ?_; simp [*]; exact Nat.lt_add_one _
  | localClose _ hlen | cleanup _ hlen | release _ hlen => refine wsum_lt_of hlen rfl ?_; simp [*] <;> omega

theorem shutdown_bounded (d : Defects) (acts : List Act) {σ : St} (hi : Inv σ) (hl : σ.live = false) :
    effectiveSteps d σ acts ≤ shutMeasure σ := by
  induction acts generalizing σ with
  | nil => simp [effectiveSteps]
  | cons a r ih =>
    simp only [effectiveSteps]
    cases hs : step d σ a with
    | none => exact ih hi hl
    | some σ' =>
      obtain ⟨hlt, hl'⟩ := shut_decrease hi hl (.of_step hs)
      have := ih (inv_step hi (.of_step hs)) hl'
      simp only; omega

end S2S.MuxPool
