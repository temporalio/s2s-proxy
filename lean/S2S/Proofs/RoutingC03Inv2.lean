import S2S.Proofs.RoutingC03Safe
/-! The second invariant `J`, about structure where `Inv` is about values: what the liveness half of C03 needs to know a
stuck queue from an empty one.  `Inv2 = Inv ∧ J`. -/
namespace S2S.Routing

/-- a busy receiver has something left to hand over, and only to targets that exist -/
def PcOK2 (nt : Nat) : RecvPc → Prop
  | .idle => True
  | .bcast _ todo => todo ≠ []
  | .deliver pending => pending ≠ [] ∧ ∀ p ∈ pending, p.1 < nt

/-- the keys of a source's maps and queues are targets, those of `ackByTarget` distinct -/
structure SrcOK2 (nt : Nat) (x : Source) : Prop where
  pc2 : PcOK2 nt x.pc
  abtk : ∀ p ∈ x.ackByTarget, p.1 < nt
  abtnd : (x.ackByTarget.map (·.1)).Nodup
  achk : ∀ p ∈ x.ackChan, p.1 < nt

/-- acknowledgements are forwarded to running sources only -/
def AckPcAct (act : SId → Prop) : AckPc → Prop
  | .idle => True
  | .forwarding todo _ _ => ∀ p ∈ todo, act p.1

structure TgtOK2 (act : SId → Prop) (tg : Target) : Prop where
  reg : tg.started = true ∨ tg.replayTodo.isSome = true → tg.registered = true
  ringle : ∀ e ∈ tg.ring, e.1 ≤ tg.nextProxyId
  ringact : ∀ e ∈ tg.ring, act e.2.1
  chanact : ∀ m ∈ tg.sendChan, act m.src
  prevact : ∀ p ∈ tg.prevAck, act p.1
  apcact : AckPcAct act tg.ackPc

def State.act (σ : State) : SId → Prop := fun s => (σ.src s).active = true

/-- `abtnd`: `ackByTarget` has one entry per key (a `rack` overwrites); `ringle`: ring ids are `≤ nextProxyId`
    (acknowledging the last emitted high covers the whole ring); every source named in a sender's queues is running, so
    nothing waits for a dead receiver -/
structure J (nt : Nat) (σ : State) : Prop where
  len : σ.targets.length = nt
  srcs : ∀ s, SrcOK2 nt (σ.src s)
  tgts : ∀ t, TgtOK2 σ.act (σ.tgt t)

theorem AckPcAct.mono {act act' : SId → Prop} (h : ∀ s, act s → act' s) {a : AckPc} (ha : AckPcAct act a) :
    AckPcAct act' a := by
  cases a with
  | idle => trivial
  | forwarding todo d r => exact fun p hp => h _ (ha p hp)

theorem TgtOK2.mono {act act' : SId → Prop} (h : ∀ s, act s → act' s) {tg : Target} (ht : TgtOK2 act tg) :
    TgtOK2 act' tg :=
  { ht with ringact := fun e he => h _ (ht.ringact e he), chanact := fun m hm => h _ (ht.chanact m hm),
            prevact := fun p hp => h _ (ht.prevact p hp), apcact := ht.apcact.mono h }

theorem SrcOK2.default (nt : Nat) : SrcOK2 nt {} := by
  refine ⟨trivial, ?_, ?_, ?_⟩ <;> simp

theorem TgtOK2.default (act : SId → Prop) : TgtOK2 act {} := by
  refine ⟨?_, ?_, ?_, ?_, ?_, trivial⟩ <;> simp

theorem J.init (ns nt : Nat) : J nt (State.init ns nt) :=
  ⟨by simp [State.init], fun s => by rw [src_init]; exact SrcOK2.default nt,
   fun t => by rw [tgt_init]; exact TgtOK2.default _⟩

theorem J.setSrc {nt : Nat} {σ : State} (hJ : J nt σ) {s : SId} {x : Source} (hx : SrcOK2 nt x)
    (ha : (σ.src s).active = true → x.active = true) : J nt (σ.setSrc s x) :=
  ⟨hJ.len, forall_src_setSrc (P := fun _ => SrcOK2 nt) hx hJ.srcs, fun t => (hJ.tgts t).mono
    (rel_setSrc (R := fun _ a b => a.active = true → b.active = true) (fun _ _ h => h) σ ha)⟩

theorem J.setTgt {nt : Nat} {σ : State} (hJ : J nt σ) {t : TId} {y : Target} (hy : TgtOK2 σ.act y) :
    J nt (σ.setTgt t y) :=
  ⟨(targets_length_setTgt σ t y).trans hJ.len, hJ.srcs, forall_tgt_setTgt (P := fun _ => TgtOK2 σ.act) hy hJ.tgts⟩

theorem J.setSrcTgt {nt : Nat} {σ : State} (hJ : J nt σ) {s : SId} {x : Source} {t : TId} {y : Target}
    (hx : SrcOK2 nt x) (ha : (σ.src s).active = x.active) (hy : TgtOK2 σ.act y) :
    J nt ((σ.setSrc s x).setTgt t y) := by
  refine (hJ.setSrc hx fun h => ha ▸ h).setTgt ?_
  have : (σ.setSrc s x).act = σ.act :=
    funext fun s0 => congrArg (· = true) (src_proj_setSrc Source.active ha.symm s0)
  rw [this]; exact hy

theorem TgtOK2.push {act : SId → Prop} {tg : Target} {m : Msg} (hT : TgtOK2 act tg) (hm : act m.src) :
    TgtOK2 act (tg.push m) :=
  { hT with chanact := forall_push hT.chanact hm }

theorem TgtOK2.process {act : SId → Prop} {tg : Target} {m : Msg} (hT : TgtOK2 act tg) (hm : act m.src) :
    TgtOK2 act (process tg m) := by
  cases m with
  | tasks s ids =>
    refine { hT with
      ringle := List.forall_mem_append.2 ⟨fun e he => Int.le_trans (hT.ringle e he)
        (Int.le_add_of_nonneg_right (Int.natCast_nonneg _)), fun e he => ?_⟩
      ringact := List.forall_mem_append.2 ⟨hT.ringact, fun e he => ?_⟩ }
    · obtain ⟨⟨o, p⟩, hop, rfl⟩ := List.mem_map.1 he
      obtain ⟨i, hi, -, rfl⟩ := mem_zip_pids.1 hop
      show tg.nextProxyId + 1 + (i : Int) ≤ tg.nextProxyId + (ids.length : Int)
      omega
    · obtain ⟨⟨o, p⟩, hop, rfl⟩ := List.mem_map.1 he
      exact hm
  | wm s h =>
    exact { hT with
      ringle := forall_mem_snoc (fun e he => Int.le_trans (hT.ringle e he)
        (Int.le_add_of_nonneg_right (by decide))) (Int.le_refl _)
      ringact := forall_mem_snoc hT.ringact hm }

theorem SrcOK2.tick {nt : Nat} {x : Source} (hS : SrcOK2 nt x) : SrcOK2 nt (tickSrc x) := by
  rw [tickSrc_eq]; exact { hS with }

theorem TgtOK2.tick {act : SId → Prop} {tg : Target} (hT : TgtOK2 act tg) : TgtOK2 act (tickTgt tg) := by
  rw [tickTgt_eq]; exact { hT with }

theorem TgtOK2.tackPc {act : SId → Prop} {tg : Target} (hT : TgtOK2 act tg) (w : Int) : AckPcAct act (tackPc tg w) :=
  tackPc_ind trivial fun _ _ _ hq p hp => (hq p hp).elim (hT.prevact p) fun ⟨_, _, h⟩ => hT.ringact _ h

-- records stay folded, as in `step_inv`
attribute [local irreducible] State.src State.tgt in
theorem step_J {c : Cfg} {nt : Nat} {σ σ' : State} {a : Act} (hI : Inv σ) (hJ : J nt σ) (hr : StepEnv σ a)
    (hf : a.isFault = false) (h : step c σ a = some σ') : J nt σ' := by
  cases Step.of_step h with
  | recvWm s high =>
    refine hJ.setSrc { hJ.srcs s with pc2 := ?_ } (fun h => h)
    show PcOK2 nt (if _ then _ else _)
    split
    · trivial
    · next hne => exact fun e => hne (List.isEmpty_iff.2 e)
  | recvTasks s tasks high _ _ hne =>
    have hS := hJ.srcs s
    obtain ⟨-, htasks, -, -⟩ := hr
    rw [hJ.len] at htasks
    have hkey : ∀ {t ids}, (t, ids) ∈ groupByOwner tasks → t < nt := fun hg =>
      (groupByOwner_key hg).elim fun id hid => (htasks _ hid).2.2.2
    have hpc : PcOK2 nt (.deliver (groupByOwner tasks)) := ⟨groupByOwner_ne_nil hne, fun p hp => hkey hp⟩
    cases c.seedAcks with
    | false => exact hJ.setSrc { hS with pc2 := hpc } (fun h => h)
    | true =>
      exact hJ.setSrc { hS with
        pc2 := hpc, abtk := forall_seed hS.abtk fun _ _ => hkey
        abtnd := nodup_keys_seed _ hS.abtnd } (fun h => h)
  | @bcastSend s t high todo _ hpc =>
    have hact := (hI.srcs s).active_of_pc (hpc ▸ nofun)
    exact hJ.setSrcTgt { hJ.srcs s with pc2 := pcDrop_ind trivial fun h => h } rfl ((hJ.tgts t).push hact)
  | @bcastDrop s t high todo =>
    exact hJ.setSrc { hJ.srcs s with pc2 := pcDrop_ind trivial fun h => h } (fun h => h)
  | deliver s t hpc =>
    have hS := hJ.srcs s
    have hact := (hI.srcs s).active_of_pc (hpc ▸ nofun)
    have hpc2 := hS.pc2
    rw [hpc] at hpc2
    exact hJ.setSrcTgt { hS with pc2 := pcDrop_ind trivial fun h => ⟨h, fun p hp => hpc2.2 p (List.mem_filter.1 hp).1⟩ }
      rfl ((hJ.tgts t).push hact)
  | @take t m rest _ _ hch =>
    have hT := hJ.tgts t
    obtain ⟨hm, hrest⟩ := List.forall_mem_cons.1 (hch ▸ hT.chanact)
    exact hJ.setTgt (TgtOK2.process { hT with chanact := hrest } hm)
  | emit t => exact hJ.setTgt { hJ.tgts t with }
  | tack t w =>
    have hT := hJ.tgts t
    exact hJ.setTgt { hT with apcact := hT.tackPc w }
  | @ackFwd t s todo _ r v hpc hv hact =>
    have hS := hJ.srcs s
    have hT := hJ.tgts t
    have hapc := hpc ▸ hT.apcact
    have htlt : t < nt := hJ.len ▸ tgt_lt_of_ackPc σ t (hpc ▸ nofun)
    rw [setTgt_setSrc_comm]
    refine hJ.setSrcTgt { hS with achk := forall_mem_snoc hS.achk htlt } rfl
      { hT with prevact := ?_, apcact := fun p hp => hapc p (List.mem_filter.1 hp).1 }
    cases r
    · exact hT.prevact
    · exact forall_aset hT.prevact hact
  | ackFin t =>
    have hT := hJ.tgts t
    exact hJ.setTgt { hT with
      ringle := fun e he => hT.ringle e (List.mem_of_mem_drop he)
      ringact := fun e he => hT.ringact e (List.mem_of_mem_drop he), apcact := trivial }
  | @rackQuiet s t v rest _ hch | @rackSend s t v rest _ _ hch =>
    have hS := hJ.srcs s
    obtain ⟨habt, hrest⟩ := forall_rack hch hS.abtk hS.achk
    exact hJ.setSrc { hS with abtk := habt, abtnd := nodup_keys_aset t v hS.abtnd, achk := hrest } (fun h => h)
  | openSrc => exact hJ.setSrc { SrcOK2.default nt with } (fun _ => rfl)
  | openTgt => exact hJ.setTgt { TgtOK2.default _ with reg := fun _ => rfl }
  | startTgt t hreg =>
    exact hJ.setTgt { hJ.tgts t with reg := fun _ => hreg }
  | @replaySend t s todo inc hw htodo _ hwm =>
    have hT := hJ.tgts t
    have hreg := hT.reg (Or.inr (by rw [htodo]; rfl))
    have hact : σ.act s := ((hI.srcs s).replayWm hwm).1
    exact hJ.setTgt { hT.push (m := .wm s hw) hact with reg := fun _ => hreg }
  | @replaySkip t s todo inc htodo | @replayDone t htodo =>
    have hT := hJ.tgts t
    exact hJ.setTgt { hT with reg := fun _ => hT.reg (Or.inr (by rw [htodo]; rfl)) }
  | tick =>
    have hact : σ.tick.act = σ.act :=
      funext fun s => congrArg (· = true) (src_proj_tick Source.active (fun x => by rw [tickSrc_eq]) σ s)
    exact ⟨by simp [hJ.len], fun s => tick_src σ s ▸ (hJ.srcs s).tick,
      fun t => tick_tgt σ t ▸ hact ▸ (hJ.tgts t).tick⟩
  | breakTgt => cases hf
  | breakSrc => cases hf

structure Inv2 (nt : Nat) (σ : State) : Prop where
  inv : Inv σ
  j : J nt σ

theorem Inv2.init (ns nt : Nat) : Inv2 nt (State.init ns nt) := ⟨Inv.init ns nt, J.init ns nt⟩

theorem step_Inv2 {c : Cfg} {nt : Nat} {σ σ' : State} {a : Act} (hI : Inv2 nt σ) (hr : StepEnv σ a)
    (hf : a.isFault = false) (h : step c σ a = some σ') : Inv2 nt σ' :=
  ⟨step_inv hI.inv hr hf h, step_J hI.inv hI.j hr hf h⟩

theorem run_Inv2 {c : Cfg} {nt : Nat} {σ : State} {acts : List Act} (hI : Inv2 nt σ)
    (henv : EnvOK c σ acts) (hnf : NoFaults acts) : Inv2 nt (run c σ acts) :=
  run_induction_env step_Inv2 hI henv hnf

end S2S.Routing
