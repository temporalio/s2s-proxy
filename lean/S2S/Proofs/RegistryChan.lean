import S2S.Proofs.RegistryStep
/-!
C08, unconditional part (`InvU`): the two identity-checked registries (`remoteSendChannels`,
`localAckChannels`).  In EVERY interleaving an entry belongs to an incarnation that registered it
and has not yet run its own (identity-checked) removal, so nothing can be left behind.
-/
namespace S2S.Registry

/-- tokens not yet handed out are blank, and neither a registered cancel function nor a pending termination refers to one.
    An invariant that a blank record would violate (`InvStamp`, `InvDown`, `InvSup`) carries the guard `i < σ.next`; the others
    get the bound from blankness (`lt_next_of_*`) where `Others`, `Newer` (which speak of `j < next` only) ask for it. -/
def InvBound (σ : State) : Prop :=
  (∀ j, σ.next ≤ j → σ.inc j = {}) ∧
  (∀ c t, aget σ.cancels c = some t → t < σ.next) ∧
  (∀ i g, (σ.inc i).rpc = .term g → g < σ.next)

/-- an entry of `remoteSendChannels` belongs to a sender between `SetRemoteSendChan` and `RemoveRemoteSendChan` -/
def InvSend (σ : State) : Prop :=
  ∀ c t, aget σ.sendChans c = some t →
    t < σ.next ∧ (σ.inc t).shard = c ∧ (σ.inc t).spc ≠ .start ∧ (σ.inc t).spc ≠ .done

/-- an entry of `localAckChannels` belongs to a receiver between `SetLocalAckChan` and `RemoveLocalAckChan` -/
def InvAck (σ : State) : Prop :=
  ∀ c t, aget σ.ackChans c = some t →
    t < σ.next ∧ (σ.inc t).shard = c ∧
      ((σ.inc t).rpc = .ackSet ∨ (σ.inc t).rpc = .cancelSet ∨ (σ.inc t).rpc = .running)

theorem InvBound.blank {σ : State} (B : InvBound σ) : ∀ j, σ.next ≤ j → σ.inc j = {} := B.1
theorem InvBound.cancels {σ : State} (B : InvBound σ) : ∀ c t, aget σ.cancels c = some t → t < σ.next := B.2.1
theorem InvBound.term {σ : State} (B : InvBound σ) : ∀ i g, (σ.inc i).rpc = .term g → g < σ.next := B.2.2

theorem lt_next_of_ne {σ : State} {i : Tok} (B : InvBound σ) (h : σ.inc i ≠ {}) : i < σ.next :=
  Decidable.byContradiction fun hn => h (B.blank i (by omega))

theorem lt_next_of_spc {σ : State} {i : Tok} (B : InvBound σ) (h : (σ.inc i).spc ≠ .done) : i < σ.next :=
  lt_next_of_ne B fun e => h (by rw [e])

theorem lt_next_of_rpc {σ : State} {i : Tok} (B : InvBound σ) (h : (σ.inc i).rpc ≠ .done) : i < σ.next :=
  lt_next_of_ne B fun e => h (by rw [e])

theorem lt_next_of_cancelled {σ : State} {i : Tok} (B : InvBound σ) (h : (σ.inc i).cancelled = true) : i < σ.next :=
  lt_next_of_ne B fun e => by rw [e] at h; cases h

theorem invBound_step {c σ a σ'} (h : Step c σ a σ') (B : InvBound σ) : InvBound σ' := by
  have hn : σ.next ≤ σ'.next := by cases h <;> simp
  refine ⟨fun j hj => ?_, fun c t ht => ?_, fun i g hg => ?_⟩
  · have hb := B.blank j (by omega)
    cases h with
    | rCancel i g hg hne =>
      -- the one step that writes a second record, `g`'s: `g < next` keeps the blank tokens blank
      have h1 : ¬ g = j := by have := B.term i g hg; simp at hj; omega
      have h2 : ¬ i = j := by rintro rfl; simp [hb] at hg
      simp [h1, h2, hb]
    | _ =>
      -- a step that writes the blank `j`: excluded by its guard (`open`: by `next < j`)
      all_goals (simp [hb] <;> (rintro rfl; simp_all <;> omega))
  · have := (h.cancels_from ht).elim (B.cancels c t) fun e => lt_next_of_rpc B (by simp [e.1])
    omega
  · have := (h.term_from hg).elim (B.term i g) fun e => B.cancels _ g e.2
    omega

/-- the shape of `InvSend`, `InvAck` and `InvLocal`: an entry names (through `tok`) a handed-out incarnation of its shard -/
def Entry {α : Type} (reg : State → List (Shard × α)) (tok : α → Tok) (P : α → Inc → Prop) (σ : State) : Prop :=
  ∀ c v, aget (reg σ) c = some v → tok v < σ.next ∧ (σ.inc (tok v)).shard = c ∧ P v (σ.inc (tok v))

section
variable {α : Type} {reg : State → List (Shard × α)} {tok : α → Tok} {P : α → Inc → Prop} {σ σ' : State} {k : Tok}

theorem Entry.frame (I : Entry reg tok P σ) (hn : σ.next ≤ σ'.next) (hr : reg σ' = reg σ)
    (hi : ∀ t, t < σ.next → (σ'.inc t).shard = (σ.inc t).shard ∧ ∀ v, P v (σ.inc t) → P v (σ'.inc t)) :
    Entry reg tok P σ' := by
  intro c v hv
  rw [hr] at hv
  obtain ⟨h1, h2, h3⟩ := I c v hv
  exact ⟨Nat.lt_of_lt_of_le h1 hn, (hi _ h1).1 ▸ h2, (hi _ h1).2 v h3⟩

theorem Entry.write (I : Entry reg tok P σ) (w : Writes reg k σ σ')
    (hk : ∀ v, aget (reg σ') (σ.inc k).shard = some v →
      tok v < σ.next ∧ (σ'.inc (tok v)).shard = (σ.inc k).shard ∧ P v (σ'.inc (tok v))) : Entry reg tok P σ' := by
  intro c v hv
  by_cases e : (σ.inc k).shard = c
  · subst e; rw [w.next]; exact hk v hv
  · rw [w.reg c e] at hv
    obtain ⟨h1, h2, h3⟩ := I c v hv
    rw [w.inc _ fun e' => e (by rw [e', h2]), w.next]
    exact ⟨h1, h2, h3⟩

/-- the identity check failed: `k` gives up its claim, and the entry of its shard stays because it is not `k`'s -/
theorem Entry.keep (I : Entry reg tok P σ) (w : Writes reg k σ σ') (hr : reg σ' = reg σ)
    (hk : ∀ v, aget (reg σ) (σ.inc k).shard = some v → k ≠ tok v) : Entry reg tok P σ' :=
  I.write w fun v hv => by rw [hr] at hv; rw [w.inc _ (hk v hv)]; exact I _ v hv

end

theorem invSend_step {c σ a σ'} (h : Step c σ a σ') (B : InvBound σ) (I : InvSend σ) : InvSend σ' := by
  cases ha : a.movesSend
  · intro c t; simp only [h.sendSame ha]; exact I c t
  change Entry State.sendChans id (fun _ x => x.spc ≠ .start ∧ x.spc ≠ .done) _ at I ⊢
  have w := @h.writes
  cases h with
  | sSet i hi =>
    refine I.write (w _ _ _ rfl) fun t ht => ?_
    simp [aget_aset] at ht; subst ht
    exact ⟨lt_next_of_spc B (by simp [hi.1]), by simp, by simp⟩
  | sRmChanOwn i hi hg => exact I.write (w _ _ _ rfl) fun t ht => by simp [aget_adel] at ht
  | sRmChanOther i hi hg => exact I.keep (w _ _ _ rfl) rfl fun t ht e => hg (e ▸ ht)
  | _ =>
    all_goals first
      | exact Bool.noConfusion ha
      | (clear w; exact I.frame (by simp) (by simp) fun t ht => by simp <;> crush)

theorem invAck_step {c σ a σ'} (h : Step c σ a σ') (B : InvBound σ) (I : InvAck σ) : InvAck σ' := by
  cases ha : a.movesRecv
  · intro c t; simp only [h.recvSame ha]; exact I c t
  change Entry State.ackChans id (fun _ x => x.rpc = .ackSet ∨ x.rpc = .cancelSet ∨ x.rpc = .running) _ at I ⊢
  have w := @h.writes
  cases h with
  | rSetAck i hi =>
    refine I.write (w _ _ _ rfl) fun t ht => ?_
    simp [aget_aset] at ht; subst ht
    exact ⟨lt_next_of_rpc B (by simp [hi]), by simp, by simp⟩
  | rForceAck i hi | rRmAckOwn i hi hg => exact I.write (w _ _ _ rfl) fun t ht => by simp [aget_adel] at ht
  | rRmAckOther i hi hg => exact I.keep (w _ _ _ rfl) rfl fun t ht e => hg (e ▸ ht)
  | _ =>
    all_goals first
      | exact Bool.noConfusion ha
      | (clear w; exact I.frame (by simp) (by simp) fun t ht => by simp <;> crush)

/-- a closed channel belongs to a sender past `close(sendMsgChan)`.  No theorem of the tree reads this invariant: every send
    site recovers, so `noCrash_step` needs the three flags only. -/
def InvClosed (σ : State) : Prop :=
  ∀ t, (σ.inc t).closed = true →
    (σ.inc t).spc = .closed ∨ (σ.inc t).spc = .unreg ∨ (σ.inc t).spc = .rmChan ∨ (σ.inc t).spc = .done

theorem invClosed_step {c σ a σ'} (h : Step c σ a σ') (I : InvClosed σ) : InvClosed σ' := by
  cases ha : a.movesSend
  · intro t; simp only [h.sendSame ha]; exact I t
  cases h <;> first
    | exact Bool.noConfusion ha
    | (intro t ht; simp at ht ⊢; have hI := I t; revert ht; crush)

/-- with `recover` at every send site (the current tree: `sendPendingWatermarkToShard` has its `recover`, fix of
    C08-replay-send-on-closed-channel) no step sends on a closed channel outside `recover` -/
theorem noCrash_step {c σ a σ'} (h : Step c σ a σ') (hd : c.deliverRecover = true) (hb : c.bcastRecover = true)
    (hr : c.replayRecover = true) (hok : σ.crashed = false) : σ'.crashed = false := by
  cases h with
  | deliverMsg t ht => rw [hd, sendOn_crashed_recover]; exact hok
  | bcast t ht => rw [hb, sendOn_crashed_recover]; exact hok
  | replaySend r sh t hw ht => rw [hr, sendOn_crashed_recover]; exact hok
  | sSend i todo t hi => rw [hr, sendOn_crashed_recover]; simpa using hok
  | _ =>
    all_goals (try simp)
    all_goals (first | exact hok | simp_all)

/-- the invariants that hold in EVERY interleaving -/
structure InvU (σ : State) : Prop where
  bound : InvBound σ
  send : InvSend σ
  ack : InvAck σ
  closed : InvClosed σ

theorem invU_init : InvU State.init :=
  ⟨⟨fun _ _ => rfl, fun _ _ h => by simp [State.init, aget] at h, fun _ _ h => by simp [inc_init] at h⟩,
   fun _ _ h => by simp [State.init, aget] at h, fun _ _ h => by simp [State.init, aget] at h,
   fun _ h => by simp [inc_init] at h⟩

theorem invU_step {c σ a σ'} (h : Step c σ a σ') (I : InvU σ) : InvU σ' :=
  ⟨invBound_step h I.bound, invSend_step h I.bound I.send, invAck_step h I.bound I.ack, invClosed_step h I.closed⟩

theorem invU_run (c : Cfg) (acts : List Act) : InvU (run c State.init acts) :=
  foldl_getD_induct (f := step c) (fun _ _ _ I hs => invU_step (.of_step hs) I) acts State.init invU_init

theorem noCrash_run {c : Cfg} (hd : c.deliverRecover = true) (hb : c.bcastRecover = true) (hr : c.replayRecover = true)
    (acts : List Act) : (run c State.init acts).crashed = false :=
  foldl_getD_induct (f := step c) (P := fun σ => σ.crashed = false)
    (fun _ _ _ I hs => noCrash_step (.of_step hs) hd hb hr I) acts State.init rfl

end S2S.Registry
