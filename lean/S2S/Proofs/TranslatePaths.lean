import S2S.Spec.Translate
/-!
C12 / C16: every well-formed structural path of the type graph that ends in a namespace-name leaf is
translated by the (model of the) reflective visitor, provided the finite coverage obligations
`Covers g tb mask` hold.
-/
namespace S2S.Translate

theorem idsOK_getElem {types : List TypeD} (h : idsOK types = true) (i : Nat)
    (hi : i < types.length) : (types[i]).id = i := by
  simpa [List.getElem?_eq_getElem hi] using List.all_eq_true.1 h i (List.mem_range.2 hi)

theorem field?_some {g : Graph} (h : idsOK g.types = true) {t i : Nat} {f : FieldD}
    (hf : g.field? t i = some f) :
    g.typeD t ∈ g.types ∧ (g.typeD t).id = t ∧ f ∈ (g.typeD t).fields := by
  have hmem : f ∈ (g.typeD t).fields := List.mem_of_getElem? hf
  unfold Graph.typeD at hmem ⊢
  by_cases ht : t < g.types.length
  · rw [List.getElem?_eq_getElem ht]
    exact ⟨List.getElem_mem ht, idsOK_getElem h t ht, by rwa [List.getElem?_eq_getElem ht] at hmem⟩
  · rw [List.getElem?_eq_none (Nat.le_of_not_lt ht)] at hmem
    cases hmem

theorem covers_field {g : Graph} {tb : Tables} {mask : Nat} (hc : Covers g tb mask = true)
    {t i : Nat} {f : FieldD} (hf : g.field? t i = some f) :
    (f.oracleNs = true → f.goString = true ∧ tb.ns.contains f.go = true) ∧
    (t = g.namespaceInfo → f.go = g.nameField → f.goString = true) ∧
    (f.blob = true → tb.blob.contains f.go = true ∨
        tb.reviewedNonEventBlob.contains (t, f.go) = true) ∧
    (mask.testBit t = true →
        t ≠ g.namespaceInfo ∧ f.oracleNs = false ∧ (∀ n ∈ f.targets, mask.testBit n = true) ∧
        (f.blob = true → tb.reviewedNonEventBlob.contains (t, f.go) = true)) := by
  unfold Covers at hc
  simp only [Bool.and_eq_true] at hc
  obtain ⟨⟨hids, _⟩, hall⟩ := hc
  obtain ⟨hT, hid, hmem⟩ := field?_some hids hf
  have hok := List.all_eq_true.1 hall _ hT
  unfold typeOK at hok
  rw [hid] at hok
  simp only [Bool.and_eq_true, Bool.or_eq_true, List.all_eq_true,
    bne_iff_ne, ne_eq, Bool.not_eq_eq_eq_not, Bool.not_true] at hok
  obtain ⟨⟨⟨h1, h2⟩, h3⟩, h4⟩ := hok
  -- each clause of `typeOK` is `!a || b`: `b` follows once `a` is known
  refine ⟨fun ho => (h1 f hmem).resolve_left (ne_false_of_eq_true ho),
    fun ht hgo => ((h2.resolve_left (not_not_intro ht)) f hmem).resolve_left (not_not_intro hgo),
    fun hb => (h3 f hmem).imp_left (·.resolve_left (ne_false_of_eq_true hb)), fun hm => ?_⟩
  obtain ⟨hne, hall4⟩ := h4.resolve_left (ne_false_of_eq_true hm)
  obtain ⟨⟨ho, htg⟩, hbl⟩ := hall4 f hmem
  exact ⟨hne, ho, htg, fun hb => hbl.resolve_left (ne_false_of_eq_true hb)⟩

theorem isNsLeaf_mask {g : Graph} {tb : Tables} {mask : Nat} (hc : Covers g tb mask = true)
    {ty idx : Nat} (hm : mask.testBit ty = true) : isNsLeaf g ty idx = false := by
  unfold isNsLeaf
  cases hf : g.field? ty idx with
  | none => rfl
  | some f =>
    obtain ⟨_, _, _, h4⟩ := covers_field hc hf
    obtain ⟨hne, ho, _, _⟩ := h4 hm
    simp only [ho, Bool.false_or, Bool.and_eq_false_imp, beq_iff_eq]
    intro h
    exact absurd h hne

theorem chain_field {g : Graph} {tb : Tables} {ty idx next cur leafTy : Nat} {rest : List Step}
    (h : chain g tb (.field ty idx next :: rest) cur leafTy = true) :
    ty = cur ∧ (∃ f, g.field? ty idx = some f ∧ f.targets.contains next = true) ∧ chain g tb rest next leafTy = true := by
  simp only [chain, Bool.and_eq_true, beq_iff_eq] at h
  refine ⟨h.1.1, ?_, h.2⟩
  cases hf : g.field? ty idx with
  | none => simp [hf] at h
  | some f => exact ⟨f, rfl, by simpa [hf] using h.1.2⟩

theorem chain_blob {g : Graph} {tb : Tables} {ty idx cur leafTy : Nat} {rest : List Step}
    (h : chain g tb (.blob ty idx :: rest) cur leafTy = true) :
    ty = cur ∧ (∃ f, g.field? ty idx = some f ∧ f.blob = true ∧ tb.reviewedNonEventBlob.contains (ty, f.go) = false) ∧
      chain g tb rest g.eventType leafTy = true := by
  simp only [chain, Bool.and_eq_true, beq_iff_eq] at h
  refine ⟨h.1.1, ?_, h.2⟩
  cases hf : g.field? ty idx with
  | none => simp [hf] at h
  | some f => exact ⟨f, rfl, by simpa [hf] using h.1.2⟩

theorem chain_mask {g : Graph} {tb : Tables} {mask : Nat} (hc : Covers g tb mask = true)
    (leafTy : Nat) (steps : List Step) (cur : Nat) (h : chain g tb steps cur leafTy = true)
    (hm : mask.testBit cur = true) : mask.testBit leafTy = true := by
  induction steps generalizing cur with
  | nil => exact eq_of_beq h ▸ hm
  | cons s rest ih =>
    cases s with
    | field ty idx next =>
      obtain ⟨rfl, ⟨f, hf, hfm⟩, hrest⟩ := chain_field h
      exact ih next hrest (((covers_field hc hf).2.2.2 hm).2.2.1 next (List.contains_iff_mem.1 hfm))
    | blob ty idx =>
      -- a masked type holds no event blob
      obtain ⟨rfl, ⟨f, hf, hb, hnr⟩, -⟩ := chain_blob h
      rw [((covers_field hc hf).2.2.2 hm).2.2.2 hb] at hnr
      cases hnr

/-- a path that enters a skippable attributes type stays inside the mask (`chain_mask`), and the mask holds no
    namespace-name leaf (`isNsLeaf_mask`): a chain that ends in one enters none -/
theorem entersSkippable_false_of_chain {g : Graph} {tb : Tables} {mask : Nat} (hc : Covers g tb mask = true)
    {leafTy leafIdx : Nat} (hleaf : isNsLeaf g leafTy leafIdx = true) {rest : List Step} {cur : Nat}
    (hrest : chain g tb rest cur leafTy = true) : entersSkippable tb rest = false := by
  match rest, hrest with
  | [], _ | .blob _ _ :: _, _ => rfl
  | .field w i attr :: rest', hrest =>
    refine Bool.eq_false_iff.2 fun hes => ?_
    have hsk : mask.testBit attr = true := by
      unfold Covers at hc
      simp only [Bool.and_eq_true, List.all_eq_true] at hc
      exact hc.1.2 attr (List.contains_iff_mem.1 hes)
    rw [isNsLeaf_mask hc (chain_mask hc leafTy rest' attr (chain_field hrest).2.2 hsk)] at hleaf
    cases hleaf

theorem walk_of_chain {g : Graph} {tb : Tables} {mask : Nat} (hc : Covers g tb mask = true)
    (leafTy leafIdx : Nat) (hleaf : isNsLeaf g leafTy leafIdx = true) (steps : List Step) (cur : Nat) (inEvents : Bool)
    (h : chain g tb steps cur leafTy = true) : walk g tb steps inEvents = true := by
  induction steps generalizing cur inEvents with
  | nil => rfl
  | cons s rest ih =>
    cases s with
    | field ty idx next =>
      obtain ⟨-, ⟨f, hf, hfm⟩, hrest⟩ := chain_field h
      simp only [walk, hf, hfm, entersSkippable_false_of_chain hc hleaf hrest, Bool.not_true, Bool.and_false,
        Bool.false_eq_true, if_false]
      exact ih next _ hrest
    | blob ty idx =>
      obtain ⟨-, ⟨f, hf, hb, hnr⟩, hrest⟩ := chain_blob h
      have hbl := ((covers_field hc hf).2.2.1 hb).resolve_right (ne_true_of_eq_false hnr)
      simp only [walk, hf, hb, hbl, Bool.and_self, if_true]
      exact ih _ true hrest

theorem leafTranslated_of_isNsLeaf {g : Graph} {tb : Tables} {mask : Nat}
    (hc : Covers g tb mask = true) {ty idx : Nat} (hleaf : isNsLeaf g ty idx = true) :
    leafTranslated g tb ty idx = true := by
  unfold isNsLeaf at hleaf
  unfold leafTranslated
  cases hf : g.field? ty idx with
  | none => rw [hf] at hleaf; cases hleaf
  | some f =>
    rw [hf] at hleaf
    obtain ⟨h1, h2, _, _⟩ := covers_field hc hf
    simp only [Bool.or_eq_true, Bool.and_eq_true, beq_iff_eq] at hleaf ⊢
    rcases hleaf with ho | ⟨ht, hgo⟩
    · exact Or.inr (h1 ho)
    · exact Or.inl ⟨⟨ht, hgo⟩, h2 ht hgo⟩

theorem translates_of_covers (g : Graph) (tb : Tables) (mask : Nat) (hc : Covers g tb mask = true)
    (root : Nat) (p : Path) (hw : WellFormed g tb root p) : translates g tb p = true := by
  obtain ⟨hchain, hleaf⟩ := hw
  unfold translates
  rw [walk_of_chain hc p.leafTy p.leafIdx hleaf p.steps root false hchain,
    leafTranslated_of_isNsLeaf hc hleaf]
  rfl

theorem chain_congr (g : Graph) (tb1 tb2 : Tables) (h : tb1.reviewedNonEventBlob = tb2.reviewedNonEventBlob) :
    ∀ (steps : List Step) (cur leafTy : Nat), chain g tb1 steps cur leafTy = chain g tb2 steps cur leafTy := by
  intro steps cur leafTy
  fun_induction chain g tb1 steps cur leafTy <;> simp only [chain, *]

end S2S.Translate
