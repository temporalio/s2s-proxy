import S2S.Proofs.RoutingFaultDef
import S2S.Proofs.RoutingSrcStep
import S2S.Spec.RoutingAcksF
/-!
C03's safety half WITH faults ("C03F"): the history invariant `AF.Hist` of the current incarnation of one source stream,
relative to the two ghosts (`M` = `Ghost.maxHighOf s`, `b` = `AckGhost.baseOf s`); `AF.HInv` pairs it with the bound `≤ M` on
the whole history.  What is TRUE of the current tree (what is not: `S2S/Props/C03F.lean`):

* the acknowledgements of the CURRENT incarnation are two non-decreasing segments `pre ++ post`: a restarted incarnation
  sends stale values unclamped while `lastHigh = 0`, then clamps DOWN to its first, lower `lastHigh` — the one descent.
  After it `lastSentMin ≤ lastHigh` holds for the rest of the incarnation (`RecvOK`: `lastHigh` only grows within an
  incarnation), so there is no second descent, and `post` is bounded by `lastHigh`;
* the FIRST incarnation (`inc ≤ 1`) has no descent: there `lastHigh = M`, and `InvF` bounds every value that can reach
  `sendAck` by `M`.
-/
namespace S2S.Routing

/-- source stream `s` is never broken in `acts` (target streams and OTHER source streams may break at any position) -/
def NoSrcBreak (s : SId) (acts : List Act) : Prop := ∀ a ∈ acts, a ≠ Act.breakSrc s

instance (s : SId) (acts : List Act) : Decidable (NoSrcBreak s acts) := by unfold NoSrcBreak; exact inferInstance

theorem AF.quiet_setBoth (σ : State) (s0 : SId) (x' : Source) (t : TId) (tg : Target)
    (h : AF.Quiet (σ.src s0) x') (s : SId) : AF.Quiet (σ.src s) (((σ.setSrc s0 x').setTgt t tg).src s) :=
  rel_setSrc (R := fun _ => AF.Quiet) (fun _ => AF.Quiet.refl) σ h s

theorem AF.quiet_setBoth' (σ : State) (s0 : SId) (x' : Source) (t : TId) (tg : Target)
    (h : AF.Quiet ((σ.setTgt t tg).src s0) x') (s : SId) : AF.Quiet (σ.src s) (((σ.setTgt t tg).setSrc s0 x').src s) :=
  rel_setSrc (R := fun _ => AF.Quiet) (fun _ => AF.Quiet.refl) (σ.setTgt t tg) h s

/-- `AckGhost.next` when the action is enabled -/
def AckGhost.upd (σ : State) (α : AckGhost) : Act → AckGhost
  | .openSrc s => { ackBase := aset α.ackBase s (σ.src s).acksSent.length }
  | _ => α

theorem ackGhost_next_of_step {c : Cfg} {σ σ' : State} (α : AckGhost) {a : Act} (h : step c σ a = some σ') :
    α.next c σ a = α.upd σ a := by
  unfold AckGhost.next; rw [h]; cases a <;> rfl

theorem ackGhost_next_none {c : Cfg} {σ : State} (α : AckGhost) {a : Act} (h : step c σ a = none) :
    α.next c σ a = α := by
  unfold AckGhost.next; rw [h]

theorem AF.maxHighOf_upd_of_ne {σ : State} {γ : Ghost} {a : Act} {s : SId} (h : a.ghostSrc ≠ some s) :
    (γ.upd σ a).maxHighOf s = γ.maxHighOf s := by
  cases a with
  | recv s0 tasks high => exact maxHighOf_upd_ne fun e : s = s0 => h (e ▸ rfl)
  | _ => rfl

theorem AF.ackBaseOf_upd_ne {σ : State} {α : AckGhost} {a : Act} {s : SId} (h : a.ghostSrc ≠ some s) :
    (α.upd σ a).baseOf s = α.baseOf s := by
  cases a with
  | openSrc s0 => exact (getD_aget_aset _ _ _ _ _).trans (if_neg fun e : s = s0 => h (e ▸ rfl))
  | _ => rfl

theorem AF.ackBaseOf_upd_open (σ : State) (α : AckGhost) (s : SId) :
    (α.upd σ (.openSrc s)).baseOf s = (σ.src s).acksSent.length :=
  (getD_aget_aset _ _ _ _ _).trans (if_pos rfl)

theorem AF.baseOf_init (s : SId) : ({} : AckGhost).baseOf s = 0 := rfl

theorem AF.maxHighOf_init (s : SId) : ({} : Ghost).maxHighOf s = 0 := rfl

theorem runAG_state (c : Cfg) (σ : State) (α : AckGhost) (acts : List Act) : (runAG c σ α acts).1 = run c σ acts := by
  induction acts generalizing σ α with
  | nil => rfl
  | cons a rest ih => exact ih _ _

structure AF.Hist (M : Int) (x : Source) (b : Nat) : Prop where
  /-- the current incarnation starts inside the history -/
  base_le : b ≤ x.acksSent.length
  /-- a non-empty `pre` means the one descent has happened -/
  split : ∃ pre post, x.acksSent.drop b = pre ++ post ∧ pre.Pairwise (· ≤ ·) ∧ post.Pairwise (· ≤ ·) ∧
    (x.active = true → (∀ v ∈ post, v ≤ x.lastSentMin) ∧ (pre ≠ [] → x.lastSentMin ≤ x.lastHigh ∧ 0 < x.lastHigh)) ∧
    (x.inc ≤ 1 → pre = [])
  /-- what the keep-alive re-sends is `lastSentMin` -/
  lsa : ∀ a, x.lastSentAck = some a → a = x.lastSentMin
  /-- the first incarnation: `lastHigh` is the maximum announced and bounds `lastSentMin`, so the clamp never lowers an
      acknowledgement: this forbids the descent -/
  first : x.inc ≤ 1 → b = 0 ∧ (x.active = true → x.lastHigh = M ∧ x.lastSentMin ≤ x.lastHigh)
  /-- a stream that never ran: what lets `openSrc` establish `first` -/
  zero : x.inc = 0 → x.active = false ∧ M = 0 ∧ x.acksSent = []

theorem AF.hist_default : AF.Hist 0 {} 0 := by
  refine ⟨Nat.le_refl _, ⟨[], [], rfl, List.Pairwise.nil, List.Pairwise.nil, ?_, fun _ => rfl⟩,
    fun _ h => (by cases h), fun _ => ⟨rfl, fun h => (by cases h)⟩, fun _ => ⟨rfl, rfl, rfl⟩⟩
  intro h; cases h

theorem AF.Hist.inc_ne_zero {M : Int} {x : Source} {b : Nat} (h : AF.Hist M x b) (hact : x.active = true) : x.inc ≠ 0 :=
  fun hi => nomatch (h.zero hi).1.symm.trans hact

theorem AF.Hist.quiet {M : Int} {x x' : Source} {b : Nat} (h : AF.Hist M x b) (q : AF.Quiet x x') : AF.Hist M x' b := by
  constructor
  · rw [q.acks]; exact h.base_le
  · rw [q.acks, q.high, q.lsm, q.active, q.inc]; exact h.split
  · rw [q.lsm, q.lsa]; exact h.lsa
  · rw [q.high, q.lsm, q.active, q.inc]; exact h.first
  · rw [q.acks, q.active, q.inc]; exact h.zero

theorem AF.Hist.recv {M : Int} {x x' : Source} {b : Nat} {tasks : List (Int × TId)} {high : Int} (h : AF.Hist M x b)
    (r : AF.RecvRel tasks high x x') (hok : x.lastHigh ≤ high) :
    AF.Hist (if high > M then high else M) x' b := by
  obtain ⟨pre, post, hs1, hs2, hs3, hs4, hs5⟩ := h.split
  constructor
  · rw [r.acks]; exact h.base_le
  · refine ⟨pre, post, by rw [r.acks]; exact hs1, hs2, hs3, ?_, by rw [r.inc]; exact hs5⟩
    intro _
    obtain ⟨g1, g2⟩ := hs4 r.act
    rw [r.lsm, r.high]
    exact ⟨g1, fun hp => (g2 hp).imp (Int.le_trans · hok) (Int.lt_of_lt_of_le · hok)⟩
  · rw [r.lsm, r.lsa]; exact h.lsa
  · rw [r.inc, r.active, r.high, r.lsm]
    intro hi
    obtain ⟨g1, g2⟩ := (h.first hi).2 r.act
    exact ⟨(h.first hi).1, fun _ => ⟨by split <;> omega, Int.le_trans g2 hok⟩⟩
  · rw [r.inc]; exact fun hi => absurd hi (h.inc_ne_zero r.act)

/-- `hm`: `rack` unclamped and `tick` (which re-sends `lastSentMin`) give its left side, the clamped `rack` its right -/
theorem AF.Hist.send {M : Int} {x x' : Source} {b : Nat} {m : Int} (h : AF.Hist M x b) (r : AF.SendRel m x x')
    (hlsm : x'.lastSentMin = m) (hlsa : x'.lastSentAck = some m) (hmM : m ≤ M)
    (hm : (x.lastSentMin ≤ m ∧ (x.lastSentMin ≤ x.lastHigh → 0 < x.lastHigh → m ≤ x.lastHigh)) ∨
      (m = x.lastHigh ∧ 0 < x.lastHigh)) : AF.Hist M x' b := by
  obtain ⟨pre, post, hs1, hs2, hs3, hs4, hs5⟩ := h.split
  obtain ⟨g1, g2⟩ := hs4 r.act
  constructor
  · rw [r.acks]; exact Nat.le_trans h.base_le (List.prefix_append _ _).length_le
  · rw [r.acks, List.drop_append_of_le_length h.base_le, hs1, r.active, r.inc, hlsm, r.high]
    by_cases hge : x.lastSentMin ≤ m
    · -- the new acknowledgement continues the current segment
      have hpost : ∀ v ∈ post, v ≤ m := fun v hv => Int.le_trans (g1 v hv) hge
      refine ⟨pre, post ++ [m], by rw [List.append_assoc], hs2, pairwise_le_snoc hs3 hpost,
        fun _ => ⟨forall_mem_snoc hpost (Int.le_refl _), fun hp => ?_⟩, hs5⟩
      obtain ⟨k1, k2⟩ := g2 hp
      exact ⟨hm.elim (fun hm => hm.2 k1 k2) fun hm => Int.le_of_eq hm.1, k2⟩
    · -- the one descent: clamped to `lastHigh`, below `lastSentMin`
      have hcl : m = x.lastHigh ∧ 0 < x.lastHigh := hm.resolve_left fun hm => hge hm.1
      have hpre : pre = [] := Classical.byContradiction fun hp => hge (hcl.1 ▸ (g2 hp).1)
      have hinc : ¬ x.inc ≤ 1 := fun hi => hge (hcl.1 ▸ ((h.first hi).2 r.act).2)
      subst hpre
      exact ⟨post, [m], rfl, hs3, List.pairwise_singleton _ _,
        fun _ => ⟨List.forall_mem_singleton.2 (Int.le_refl _), fun _ => ⟨Int.le_of_eq hcl.1, hcl.2⟩⟩,
        fun hi => absurd hi hinc⟩
  · rw [hlsm, hlsa]; intro a ha; cases ha; rfl
  · rw [r.inc, r.active, r.high, hlsm]
    intro hi
    obtain ⟨k1, k2⟩ := (h.first hi).2 r.act
    exact ⟨(h.first hi).1, fun _ => ⟨k1, k1 ▸ hmM⟩⟩
  · rw [r.inc]; exact fun hi => absurd hi (h.inc_ne_zero r.act)

theorem AF.Hist.open {M : Int} {x x' : Source} {b : Nat} (h : AF.Hist M x b) (r : AF.OpenRel x x') :
    AF.Hist M x' x.acksSent.length := by
  constructor
  · rw [r.acks]; exact Nat.le_refl _
  · exact ⟨[], [], by rw [r.acks, List.drop_length]; rfl, List.Pairwise.nil, List.Pairwise.nil,
      fun _ => ⟨nofun, fun hp => absurd rfl hp⟩, fun _ => rfl⟩
  · rw [r.lsa]; intro a ha; cases ha
  · rw [r.inc, r.high, r.lsm]
    intro hi
    obtain ⟨_, k2, k3⟩ := h.zero (by omega)
    rw [k3]
    exact ⟨rfl, fun _ => ⟨k2.symm, Int.le_refl _⟩⟩
  · rw [r.inc]; intro hi; omega

theorem AF.Hist.break {M : Int} {x x' : Source} {b : Nat} (h : AF.Hist M x b) (r : AF.BreakRel x x') :
    AF.Hist M x' b := by
  obtain ⟨pre, post, hs1, hs2, hs3, _, hs5⟩ := h.split
  constructor
  · rw [r.acks]; exact h.base_le
  · refine ⟨pre, post, by rw [r.acks]; exact hs1, hs2, hs3, ?_, by rw [r.inc]; exact hs5⟩
    rw [r.active]; intro hc; cases hc
  · rw [r.lsa]; intro a ha; cases ha
  · rw [r.inc, r.active]; intro hi
    exact ⟨(h.first hi).1, fun hc => by cases hc⟩
  · rw [r.inc]; exact fun hi => absurd hi (h.inc_ne_zero r.act)

def AF.HInv (σ : State) (γ : Ghost) (α : AckGhost) : Prop :=
  ∀ s, (∀ v ∈ (σ.src s).acksSent, v ≤ γ.maxHighOf s) ∧ AF.Hist (γ.maxHighOf s) (σ.src s) (α.baseOf s)

theorem AF.hinv_init (ns nt : Nat) : AF.HInv (State.init ns nt) {} {} := by
  intro s; rw [src_init]; exact ⟨nofun, AF.hist_default⟩

/-- `InvF` of the post-state bounds the value just sent -/
theorem AF.step_hinv {c : Cfg} {σ σ' : State} {γ : Ghost} {α : AckGhost} {a : Act} (hI' : InvF σ' (γ.upd σ a))
    (hH : AF.HInv σ γ α) (henv : StepEnvF σ γ a) (h : step c σ a = some σ') :
    AF.HInv σ' (γ.upd σ a) (α.upd σ a) := by
  intro s
  have H := (hH s).2
  have hl := (hI'.src s).last_le
  refine ⟨fun v hv => ((AF.step_src h s).mem_acks hv).elim
    (fun ho => Int.le_trans ((hH s).1 v ho) (maxHighOf_upd_mono a s)) (hl v), ?_⟩
  cases AF.step_src h s with
  | quiet q _ hg => rw [AF.maxHighOf_upd_of_ne hg, AF.ackBaseOf_upd_ne hg]; exact H.quiet q
  | recv tasks high r => rw [maxHighOf_upd_self]; exact H.recv r henv.1.2.2.2
  | rack m r => exact H.send r.toSendRel r.lsm r.lsa (hl m r.lsa) (r.val.imp_left fun v => ⟨v.1, fun _ => v.2⟩)
  | tick m r =>
    have e : m = (σ.src s).lastSentMin := H.lsa m r.last
    have hlsa := r.lsa.trans r.last
    exact H.send r.toSendRel (r.lsm.trans e.symm) hlsa (hl m hlsa) (.inl ⟨Int.le_of_eq e.symm, fun k _ => e ▸ k⟩)
  | openSrc r => rw [AF.ackBaseOf_upd_open]; exact H.open r
  | breakSrc r => exact H.break r

/-- never active so far (`inc = 0`) or in its first incarnation -/
def AF.FirstInc (x : Source) : Prop := x.inc ≤ 1 ∧ (x.active = false → x.inc = 0)

theorem AF.step_firstInc {c : Cfg} {σ σ' : State} {a : Act} {s : SId} (h : step c σ a = some σ')
    (hF : AF.FirstInc (σ.src s)) (hnb : a ≠ .breakSrc s) : AF.FirstInc (σ'.src s) := by
  unfold AF.FirstInc at hF ⊢
  cases AF.step_src h s with
  | quiet r | recv _ _ r | rack _ r | tick _ r => rw [r.inc, r.active]; exact hF
  | openSrc r =>
    rw [r.inc, r.active, hF.2 r.idle]
    exact ⟨Nat.le_refl _, fun hc => by cases hc⟩
  | breakSrc => exact absurd rfl hnb

end S2S.Routing
