import S2S.Proofs.TranslateValCtx
/-! C13 (value level): nothing matched ⇒ nothing changed (exactly, including the re-encoded marks); no visited name
    in the mapping ⇒ nothing matched.  From the first: what a blob comes back as (`nsStep_blobEv_fst`), which every second
    walk over a translated tree (Round, Err, Path) starts from. -/
namespace S2S.TranslateVal
open S2S.Translate S2S.NameMap
variable {α : Type} [DecidableEq α] {g : Graph} {tb : Tables} {X : Ext α} {mt : α → α × Bool}

theorem unmatched_unchanged :
    (∀ c (v : Val α), (nsStep g tb X mt c v).2 = false → (nsStep g tb X mt c v).1 = v) ∧
    (∀ mode fds (l : List (Val α)),
      (visitNsFields g tb X mt mode fds l).2 = false → (visitNsFields g tb X mt mode fds l).1 = l) ∧
    (∀ mode (l : List (Val α)), (visitNsItems g tb X mt mode l).2 = false → (visitNsItems g tb X mt mode l).1 = l) := by
  apply nsStep_ind g tb X
  · intro c v e _ _; rw [e]
  · intro c s ni f hl h
    rw [nsStep_str, hl] at h ⊢
    exact congrArg Val.str (nsStrStep_unmatched ni f s h)
  · intro c ty fs hs ih h; rw [nsStep_msg hs] at h ⊢; exact congrArg (Val.msg ty) (ih h)
  · intro c l hs ih h; rw [nsStep_list hs] at h ⊢; exact congrArg Val.list (ih h)
  · intro c l hs ih h; rw [nsStep_map hs] at h ⊢; exact congrArg Val.map (ih h)
  · intro c k v hs ih h; rw [nsStep_kv hs] at h ⊢; exact congrArg (Val.kv k) (ih h)
  · intro c re evs ho _ _ h
    rw [nsStep_blobEv, if_pos ho] at h ⊢
    exact blobResult_unmatched h
  · intro mode vs _; rw [visitNsFields_nil]
  · intro mode fds _; rw [visitNsFields_nil']
  · intro mode f fds v vs ihv ihvs h
    rw [visitNsFields_cons] at h ⊢
    simp only [Bool.or_eq_false_iff] at h ⊢
    rw [ihv h.1, ihvs h.2]
  · intro mode _; rfl
  · intro mode v vs ihv ihvs h
    rw [visitNsItems_cons] at h ⊢
    simp only [Bool.or_eq_false_iff] at h ⊢
    rw [ihv h.1, ihvs h.2]

theorem nsStep_blobEv_fst {c : Ctx} {re : Bool} {evs : List (Val α)}
    (ho : c.opens tb = true) (hl : listSkippable g tb X evs = false) :
    ∃ re', (nsStep g tb X mt c (.blobEv re evs)).1 = .blobEv re' (visitNsItems g tb X mt .plain evs).1 := by
  rw [nsStep_blobEv, if_pos ho, nsBlobStep, hl]
  exact blobResult_fst (unmatched_unchanged.2.2 .plain evs)

theorem names_unmatched :
    (∀ c (v : Val α), (∀ s ∈ namesStep g tb X c v, (app mt s).2 = false) → (nsStep g tb X mt c v).2 = false) ∧
    (∀ mode fds (l : List (Val α)),
      (∀ s ∈ namesFields g tb X mode fds l, (app mt s).2 = false) → (visitNsFields g tb X mt mode fds l).2 = false) ∧
    (∀ mode (l : List (Val α)),
      (∀ s ∈ namesItems g tb X mode l, (app mt s).2 = false) → (visitNsItems g tb X mt mode l).2 = false) := by
  apply nsStep_ind g tb X
  · intro c v e _ _; rw [e]
  · intro c s ni f hl h
    rw [namesStep_str, hl] at h
    rw [nsStep_str, hl]
    exact nsStrStep_snd ni f s (fun hp => h s (by simp [hp]))
  · intro c ty fs hs ih h; rw [namesStep_msg hs] at h; rw [nsStep_msg hs]; exact ih h
  · intro c l hs ih h; rw [namesStep_list hs] at h; rw [nsStep_list hs]; exact ih h
  · intro c l hs ih h; rw [namesStep_map hs] at h; rw [nsStep_map hs]; exact ih h
  · intro c k v hs ih h; rw [namesStep_kv hs] at h; rw [nsStep_kv hs]; exact ih h
  · intro c re evs ho hl ih h
    rw [namesStep_blobEv, ho, hl] at h
    rw [nsStep_blobEv, if_pos ho]
    exact blobResult_snd fun _ => ih h
  · intro mode vs _; rw [visitNsFields_nil]
  · intro mode fds _; rw [visitNsFields_nil']
  · intro mode f fds v vs ihv ihvs h
    rw [namesFields_cons, List.forall_mem_append] at h
    rw [visitNsFields_cons, ihv h.1, ihvs h.2]
    rfl
  · intro mode _; rfl
  · intro mode v vs ihv ihvs h
    rw [namesItems_cons, List.forall_mem_append] at h
    rw [visitNsItems_cons, ihv h.1, ihvs h.2]
    rfl

theorem nsStep_identity (c : Ctx) (v : Val α) (h : ∀ s ∈ namesStep g tb X c v, (app mt s).2 = false) :
    nsStep g tb X mt c v = (v, false) :=
  have h2 := names_unmatched.1 c v h
  Prod.ext (unmatched_unchanged.1 c v h2) h2

end S2S.TranslateVal
