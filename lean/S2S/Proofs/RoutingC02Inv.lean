import S2S.Proofs.RoutingBasic
/-!
C02, vocabulary.  The invariant `Inv`: per source `SrcInv`, per target `TgtInv`, per pair `Pipe`, the conservation law of
the pipeline.  `emitOf` and `nextOf` say what `process` emits for a message and which proxy id comes next.
-/
namespace S2S.Routing

/-- original ids of source `s` carried by task messages of a channel, in order -/
def ofS (s : SId) : List Msg → List Int
  | [] => []
  | .tasks s' ids :: r => if s' = s then ids ++ ofS s r else ofS s r
  | .wm _ _ :: r => ofS s r

theorem ofS_append (s : SId) (a b : List Msg) : ofS s (a ++ b) = ofS s a ++ ofS s b := by
  fun_induction ofS s a <;> simp [ofS, *]

theorem ofS_eq_nil_of_all (s : SId) (l : List Msg)
    (h : l.all (fun m => m.src != s || m.isWm) = true) : ofS s l = [] := by
  fun_induction ofS s l with
  | case1 => rfl
  | case2 => simp [Msg.src, Msg.isWm] at h
  | case3 _ _ _ _ ih | case4 _ _ _ ih => rw [List.all_cons, Bool.and_eq_true] at h; exact ih h.2

/-- original ids of source `s` in a list of emitted messages -/
def delOf (s : SId) (l : List Emitted) : List Int :=
  (l.filter (fun e => e.src == s)).flatMap (·.orig)

theorem delOf_append (s : SId) (a b : List Emitted) : delOf s (a ++ b) = delOf s a ++ delOf s b := by
  simp [delOf, List.filter_append, List.flatMap_append]

theorem delOf_nil (s : SId) : delOf s [] = [] := rfl

theorem deliveredOf_eq_delOf (tg : Target) (s : SId) : tg.deliveredOf s = delOf s tg.stream := rfl

theorem delOf_singleton (s : SId) (e : Emitted) :
    delOf s [e] = if e.src = s then e.orig else [] := by
  by_cases h : e.src = s <;> simp [delOf, h]

/-- everything the sender has processed: the emitted stream plus the message blocked in `Send` -/
def Target.full (tg : Target) : List Emitted := tg.stream ++ tg.holding.toList

/-- the pending sub-batch for `t` -/
def pendSeg : RecvPc → TId → List Int
  | .deliver p, t => (aget p t).getD []
  | _, _ => []

/-- the (last id, max high) pair reached after a stream -/
def endState : Int → Int → List Emitted → Int × Int
  | l, m, [] => (l, m)
  | l, m, e :: r =>
    if e.ids.isEmpty then endState l (if e.high > m then e.high else m) r
    else endState (e.ids.getLast?.getD l) e.high r

theorem endState_append (l m : Int) (xs ys : List Emitted) :
    endState l m (xs ++ ys) = endState (endState l m xs).1 (endState l m xs).2 ys := by
  fun_induction endState l m xs <;> simp [endState, *]

theorem streamWF_append (l m : Int) (xs ys : List Emitted) :
    StreamWF l m (xs ++ ys) ↔
      StreamWF l m xs ∧ StreamWF (endState l m xs).1 (endState l m xs).2 ys := by
  fun_induction endState l m xs <;> simp [StreamWF, and_assoc, *]

structure SrcInv (x : Source) : Prop where
  inact : x.active = false → x.received = [] ∧ x.pc = .idle
  lt : ∀ p ∈ x.received, p.1 < x.lastHigh
  pw : (x.received.map (·.1)).Pairwise (· < ·)

structure TgtInv (tg : Target) : Prop where
  unreg : tg.registered = false →
    tg.started = false ∧ tg.replayTodo = none ∧ tg.sendChan = [] ∧ tg.holding = none ∧ tg.stream = []
  hold_ka : ∀ e, tg.holding = some e → e.keepalive = false
  lens : ∀ e ∈ tg.full, e.ids.length = e.orig.length
  wf : StreamWF 0 0 tg.full
  endL : (endState 0 0 tg.full).1 ≤ tg.nextProxyId
  endM : (endState 0 0 tg.full).2 ≤ tg.nextProxyId + 1

/-- what `s` received for `t` is what `t` emitted of `s`, then what is in its channel, then what `s` still holds for it -/
def Pipe (s : SId) (t : TId) (x : Source) (tg : Target) : Prop :=
  x.sentTo t = delOf s tg.full ++ ofS s tg.sendChan ++ pendSeg x.pc t

abbrev Inv := Holds (fun _ => SrcInv) (fun _ => TgtInv) Pipe

theorem SrcInv.default : SrcInv {} := by
  constructor
  · intro _; exact ⟨rfl, rfl⟩
  · intro p hp; cases hp
  · exact List.Pairwise.nil

theorem TgtInv.empty {tg : Target}
    (hu : tg.registered = false →
      tg.started = false ∧ tg.replayTodo = none ∧ tg.sendChan = [] ∧ tg.holding = none ∧ tg.stream = [])
    (hh : tg.holding = none) (hs : tg.stream = []) (hn : 0 ≤ tg.nextProxyId) : TgtInv tg := by
  have hf : tg.full = [] := by rw [Target.full, hs, hh]; rfl
  refine ⟨hu, fun e he => (nomatch hh ▸ he), ?_, ?_, ?_, ?_⟩ <;> rw [hf]
  · nofun
  · trivial
  · exact hn
  · exact Int.le_trans hn (Int.le_add_one (Int.le_refl _))

theorem TgtInv.default : TgtInv {} :=
  .empty (fun _ => ⟨rfl, rfl, rfl, rfl, rfl⟩) rfl rfl (Int.le_refl 0)

theorem SrcInv.frame {x x' : Source} (h : SrcInv x) (ha : x'.active = x.active) (hp : x'.pc = x.pc)
    (hl : x'.lastHigh = x.lastHigh) (hr : x'.received = x.received) : SrcInv x' :=
  ⟨ha ▸ hp ▸ hr ▸ h.inact, hl ▸ hr ▸ h.lt, hr ▸ h.pw⟩

theorem SrcInv.frameActive {x x' : Source} (h : SrcInv x) (ha : x'.active = true)
    (hl : x'.lastHigh = x.lastHigh) (hr : x'.received = x.received) : SrcInv x' :=
  ⟨fun hf => (nomatch ha.symm.trans hf), hl ▸ hr ▸ h.lt, hr ▸ h.pw⟩

theorem Target.full_congr {tg tg' : Target} (hh : tg'.holding = tg.holding) (hs : tg'.stream = tg.stream) :
    tg'.full = tg.full := by
  simp only [Target.full, hh, hs]

theorem Target.full_emit {tg tg' : Target} {e : Emitted} (he : tg.holding = some e) (hka : e.keepalive = false)
    (hh : tg'.holding = none := by rfl) (hem : tg'.emitted = tg.emitted ++ [e] := by rfl) : tg'.full = tg.full := by
  simp [Target.full, Target.stream, he, hh, hem, List.filter_append, hka]

theorem TgtInv.frameFull {tg tg' : Target} (h : TgtInv tg)
    (hu : tg'.registered = false →
      tg'.started = false ∧ tg'.replayTodo = none ∧ tg'.sendChan = [] ∧ tg'.holding = none ∧ tg'.stream = [])
    (hka : ∀ e, tg'.holding = some e → e.keepalive = false)
    (hf : tg'.full = tg.full)
    (hn : tg'.nextProxyId = tg.nextProxyId) : TgtInv tg' :=
  ⟨hu, hka, hf ▸ h.lens, hf ▸ h.wf, hf ▸ hn ▸ h.endL, hf ▸ hn ▸ h.endM⟩

theorem TgtInv.frameReg {tg tg' : Target} (h : TgtInv tg) (hreg : tg'.registered = true)
    (hh : tg'.holding = tg.holding) (hs : tg'.stream = tg.stream)
    (hn : tg'.nextProxyId = tg.nextProxyId) : TgtInv tg' :=
  h.frameFull (fun hf => nomatch hreg.symm.trans hf) (by rw [hh]; exact h.hold_ka) (Target.full_congr hh hs) hn

theorem TgtInv.reg_of_started {tg : Target} (h : TgtInv tg) (hs : tg.started = true) : tg.registered = true :=
  eq_true_of_ne_false fun hr => Bool.noConfusion (hs.symm.trans (h.unreg hr).1)

theorem TgtInv.reg_of_replayTodo {tg : Target} (h : TgtInv tg) (hs : tg.replayTodo ≠ none) : tg.registered = true :=
  eq_true_of_ne_false fun hr => hs (h.unreg hr).2.1

theorem TgtInv.reg_of_holding {tg : Target} (h : TgtInv tg) (hs : tg.holding ≠ none) : tg.registered = true :=
  eq_true_of_ne_false fun hr => hs (h.unreg hr).2.2.2.1

theorem SrcInv.active_of_pc {x : Source} (h : SrcInv x) (hpc : x.pc ≠ .idle) : x.active = true :=
  eq_true_of_ne_false fun ha => hpc (h.inact ha).2

theorem Pipe.frame {s : SId} {t : TId} {x x' : Source} {tg tg' : Target} (h : Pipe s t x tg)
    (hr : x'.received = x.received) (hp : pendSeg x'.pc t = pendSeg x.pc t)
    (hf : tg'.full = tg.full) (hc : ofS s tg'.sendChan = ofS s tg.sendChan) :
    Pipe s t x' tg' := by
  unfold Pipe Source.sentTo at *
  rw [hf, hr, hp, hc]
  exact h

theorem pendSeg_filter (pending : List (TId × List Int)) (t t' : TId) :
    pendSeg (pcDrop .deliver pending t) t' = if t' = t then [] else pendSeg (.deliver pending) t' := by
  rw [apply_pcDrop (pendSeg · t') rfl]; simp only [pendSeg, aget_filter_ne]
  split <;> rfl

theorem ofS_push (s : SId) (tg : Target) (m : Msg) : ofS s (tg.push m).sendChan = ofS s tg.sendChan ++ ofS s [m] :=
  ofS_append s _ _

def emitOf (n : Int) : Msg → Emitted
  | .tasks s ids =>
    { src := s, ids := (List.range ids.length).map (fun (i : Nat) => n + 1 + (i : Int)),
      high := n + (ids.length : Int) + 1, orig := ids }
  | .wm s _ => { src := s, ids := [], high := n + 1, orig := [] }

def nextOf (n : Int) : Msg → Int
  | .tasks _ ids => n + (ids.length : Int)
  | .wm _ _ => n + 1

theorem process_holding (tg : Target) (m : Msg) :
    (process tg m).holding = some (emitOf tg.nextProxyId m) := by cases m <;> rfl
theorem process_nextProxyId (tg : Target) (m : Msg) :
    (process tg m).nextProxyId = nextOf tg.nextProxyId m := by cases m <;> rfl

theorem emitOf_keepalive (n : Int) (m : Msg) : (emitOf n m).keepalive = false := by cases m <;> rfl

theorem emitOf_lens (n : Int) (m : Msg) : (emitOf n m).ids.length = (emitOf n m).orig.length := by
  cases m <;> simp [emitOf]

theorem delOf_emitOf (s : SId) (n : Int) (m : Msg) : delOf s [emitOf n m] = ofS s [m] := by
  rw [delOf_singleton]
  cases m with
  | tasks s' ids => by_cases h : s' = s <;> simp [emitOf, ofS, h]
  | wm s' hh => simp only [emitOf, ofS]; by_cases h : s' = s <;> simp only [h, if_true, if_false]

theorem streamWF_singleton {e : Emitted} {L M n N : Int} (hL : L ≤ n) (hM : M ≤ n + 1) (hn : n ≤ N)
    (hinc : StrictInc e.ids) (hids : ∀ p ∈ e.ids, n < p ∧ p < e.high) (hlo : n < e.high) (hhi : e.high ≤ N + 1) :
    StreamWF L M [e] ∧ (endState L M [e]).1 ≤ N ∧ (endState L M [e]).2 ≤ N + 1 := by
  cases hids' : e.ids with
  | nil =>
    simp only [StreamWF, endState, hids', List.isEmpty_nil, if_true]
    refine ⟨trivial, by omega, ?_⟩
    split <;> omega
  | cons a r =>
    have ha := hids a (hids' ▸ List.mem_cons_self)
    have hlast : (a :: r).getLast?.getD L ≤ N := by
      cases hg : (a :: r).getLast? with
      | none => exact Int.le_trans hL hn
      | some v => have := (hids v (hids' ▸ List.mem_of_getLast? hg)).2; show v ≤ N; omega
    simp only [StreamWF, endState, hids', List.isEmpty_cons, Bool.false_eq_true, if_false]
    rw [hids'] at hinc hids
    exact ⟨⟨hinc, fun p hp => Int.lt_of_le_of_lt hL (hids p hp).1, fun p hp => (hids p hp).2, by omega, trivial⟩,
      hlast, hhi⟩

theorem emitOf_wf (n : Int) (m : Msg) (L M : Int) (hL : L ≤ n) (hM : M ≤ n + 1) :
    StreamWF L M [emitOf n m] ∧ (endState L M [emitOf n m]).1 ≤ nextOf n m ∧
      (endState L M [emitOf n m]).2 ≤ nextOf n m + 1 := by
  cases m with
  | wm s h => exact streamWF_singleton hL hM (N := n + 1) (by omega) trivial nofun (Int.lt_succ n) (by show n + 1 ≤ _; omega)
  | tasks s ids =>
    simp only [emitOf, nextOf]
    refine streamWF_singleton hL hM (by omega) ?_ ?_ (by show n < n + _ + 1; omega) (Int.le_refl _)
    · apply StrictInc.of_pairwise
      rw [List.pairwise_map]
      exact List.Pairwise.imp (fun hij => by omega) List.pairwise_lt_range
    · intro p hp
      obtain ⟨i, hi, rfl⟩ := List.mem_map.1 hp
      have := List.mem_range.1 hi
      show n < n + 1 + (i : Int) ∧ n + 1 + (i : Int) < n + (ids.length : Int) + 1
      omega
theorem stream_append_keepalive (l : List Emitted) (e : Emitted) (h : e.keepalive = true) :
    (l ++ [e]).filter (fun e => !e.keepalive) = l.filter (fun e => !e.keepalive) := by
  simp [List.filter_append, h]

end S2S.Routing
