import S2S.Proofs.RoutingSrcStep
/-!
Late acknowledgements ("C03S"): what needs no invariant (any `Cfg`, state and action, faults included): `confirmed`
only grows, at a step (`Late.step_confirmed`) and along a run; so does `acksSent` along a run (off
`AF.SrcRel.acks_append`).  Read by `RoutingLateInv`.

`Late.Quiet` / `Late.SrcRel` list how a step changes five fields of a source; only the statement of
`Late.srcRel_setBoth` mentions them (proofs go by `AF.SrcRel`).  It and `Late.tgt_setSrc`, `src_setTgt`, `tgt_init`,
`run_nil`, `conf_setBoth`/`'` restate `RoutingBasic`.
-/
namespace S2S.Routing

theorem Late.tgt_setSrc (σ : State) (s : SId) (x : Source) (t : TId) : (σ.setSrc s x).tgt t = σ.tgt t := rfl
theorem Late.src_setTgt (σ : State) (t : TId) (x : Target) (s : SId) : (σ.setTgt t x).src s = σ.src s := rfl
theorem Late.tgt_init (ns nt : Nat) (t : TId) : (State.init ns nt).tgt t = {} := Routing.tgt_init ns nt t

structure Late.Quiet (x x' : Source) : Prop where
  acks : x'.acksSent = x.acksSent
  recv : x'.received = x.received
  high : x'.lastHigh = x.lastHigh
  lsm : x'.lastSentMin = x.lastSentMin
  lsa : x'.lastSentAck = x.lastSentAck

/-- the five ways a step `a` can change the acknowledgement-relevant fields of source `s` (`x` before, `x'` after) -/
def Late.SrcRel (a : Act) (s : SId) (x x' : Source) : Prop :=
  Late.Quiet x x' ∨
  (∃ tasks high, a = .recv s tasks high ∧ x'.acksSent = x.acksSent ∧ x'.received = x.received ++ tasks ∧
      x'.lastHigh = high ∧ x'.lastSentMin = x.lastSentMin ∧ x'.lastSentAck = x.lastSentAck) ∨
  (∃ m, a = .rack s ∧ x'.acksSent = x.acksSent ++ [m] ∧ x'.received = x.received ∧
      x'.lastHigh = x.lastHigh ∧ x'.lastSentMin = m ∧ x'.lastSentAck = some m ∧
      (x.lastSentMin ≤ m ∨ m = x.lastHigh)) ∨
  (∃ m, a = .tick ∧ x.lastSentAck = some m ∧ x'.acksSent = x.acksSent ++ [m] ∧ x'.received = x.received ∧
      x'.lastHigh = x.lastHigh ∧ x'.lastSentMin = x.lastSentMin ∧ x'.lastSentAck = x.lastSentAck) ∨
  (a = .openSrc s ∧ x.active = false ∧ x'.acksSent = x.acksSent ∧ x'.received = x.received ∧
      x'.lastHigh = 0 ∧ x'.lastSentMin = 0 ∧ x'.lastSentAck = none) ∨
  (a = .breakSrc s ∧ x'.acksSent = x.acksSent ∧ x'.received = x.received ∧
      x'.lastHigh = 0 ∧ x'.lastSentMin = 0 ∧ x'.lastSentAck = none)

theorem Late.srcRel_setBoth (a : Act) (σ : State) (s0 : SId) (x' : Source) (t : TId) (tg : Target)
    (h : Late.SrcRel a s0 (σ.src s0) x') (s : SId) :
    Late.SrcRel a s (σ.src s) (((σ.setSrc s0 x').setTgt t tg).src s) :=
  rel_setSrc (R := Late.SrcRel a) (fun _ _ => Or.inl ⟨rfl, rfl, rfl, rfl, rfl⟩) σ h s

theorem Late.conf_setTgt (σ : State) (t0 : TId) (tg : Target) (h : (σ.tgt t0).confirmed <+: tg.confirmed) (t : TId) :
    (σ.tgt t).confirmed <+: ((σ.setTgt t0 tg).tgt t).confirmed :=
  rel_setTgt (R := fun _ x x' => x.confirmed <+: x'.confirmed) (fun _ _ => List.prefix_refl _) σ h t

theorem Late.conf_setBoth (σ : State) (s : SId) (x : Source) (t0 : TId) (tg : Target)
    (h : (σ.tgt t0).confirmed <+: tg.confirmed) (t : TId) :
    (σ.tgt t).confirmed <+: (((σ.setSrc s x).setTgt t0 tg).tgt t).confirmed :=
  Late.conf_setTgt (σ.setSrc s x) t0 tg h t

theorem Late.conf_setBoth' (σ : State) (s : SId) (x : Source) (t0 : TId) (tg : Target)
    (h : (σ.tgt t0).confirmed <+: tg.confirmed) (t : TId) :
    (σ.tgt t).confirmed <+: (((σ.setTgt t0 tg).setSrc s x).tgt t).confirmed :=
  Late.conf_setTgt σ t0 tg h t

/-- faults included: a broken or re-opened target stream keeps the confirmations of its earlier incarnations -/
theorem Late.step_confirmed {c : Cfg} {σ σ' : State} {a : Act} (h : step c σ a = some σ') (t : TId) :
    (σ.tgt t).confirmed <+: (σ'.tgt t).confirmed := by
  cases Step.of_step h with
  | tick => rw [tick_tgt, tickTgt_eq]; exact List.prefix_refl _
  | @take _ m => exact Late.conf_setTgt σ _ _ (by cases m <;> exact List.prefix_refl _) t
  | tack => exact Late.conf_setTgt σ _ _ (List.prefix_append _ _) t
  | recvWm | recvTasks | bcastDrop | rackSend | rackQuiet | openSrc | breakSrc => exact List.prefix_refl _
  | _ =>
    refine Late.conf_setTgt _ _ _ ?_ t
    exact List.prefix_refl _

theorem Late.run_nil (c : Cfg) (σ : State) : run c σ [] = σ := rfl

theorem Late.envOK_append {c : Cfg} {σ : State} {pre post : List Act} (h : EnvOK c σ (pre ++ post)) :
    EnvOK c σ pre ∧ EnvOK c (run c σ pre) post := by
  induction pre generalizing σ with
  | nil => exact ⟨trivial, h⟩
  | cons a rest ih =>
    obtain ⟨h1, h2⟩ := h
    obtain ⟨h3, h4⟩ := ih h2
    exact ⟨⟨h1, h3⟩, h4⟩

theorem Late.noFaults_append {pre post : List Act} (h : NoFaults (pre ++ post)) : NoFaults pre ∧ NoFaults post :=
  ⟨fun a ha => h a (List.mem_append_left _ ha), fun a ha => h a (List.mem_append_right _ ha)⟩

theorem Late.run_acks_prefix (c : Cfg) (σ : State) (acts : List Act) (s : SId) :
    (σ.src s).acksSent <+: ((run c σ acts).src s).acksSent :=
  run_induction (P := fun σ' => (σ.src s).acksSent <+: (σ'.src s).acksSent)
    (fun h hs => let ⟨n, e, _⟩ := (AF.step_src hs s).acks_append; h.trans ⟨n, e.symm⟩) (List.prefix_refl _) acts

theorem Late.run_confirmed_prefix (c : Cfg) (σ : State) (acts : List Act) (t : TId) :
    (σ.tgt t).confirmed <+: ((run c σ acts).tgt t).confirmed :=
  run_induction (P := fun σ' => (σ.tgt t).confirmed <+: (σ'.tgt t).confirmed)
    (fun h hs => h.trans (Late.step_confirmed hs t)) (List.prefix_refl _) acts

theorem Late.run_confirmed_mono (c : Cfg) (σ : State) (acts : List Act) {s : SId} {id : Int} {t : TId}
    (h : Confirmed σ s id t) : Confirmed (run c σ acts) s id t :=
  (Late.run_confirmed_prefix c σ acts t).subset h

end S2S.Routing
