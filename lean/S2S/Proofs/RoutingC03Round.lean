import S2S.Proofs.RoutingC03Quiet
import S2S.Proofs.RoutingSrcStep
/-! Which steps leave `started`, and a source's `lastHigh` and `active`, alone; with that `Good`, and what a round needs of
its source (`Keep`), survive the steps of a round; a round ends idle. -/
namespace S2S.Routing
variable {c : Cfg}

theorem step_len {c : Cfg} {σ σ' : State} {a : Act} (h : step c σ a = some σ') :
    σ'.sources.length = σ.sources.length ∧ σ'.targets.length = σ.targets.length := by
  cases Step.of_step h <;> simp

/-- with `isFault` and `isEager`, the two flags below are all a phase proof asks of an action; `eager_flags` ties the
    four together -/
def Act.keepsStarted : Act → Bool
  | .openTgt _ | .breakTgt _ => false
  | _ => true

theorem step_started {c : Cfg} {σ σ' : State} {a : Act} (ha : a.keepsStarted = true)
    (h : step c σ a = some σ') (t0 : TId) (h0 : (σ.tgt t0).started = true) :
    (σ'.tgt t0).started = true := by
  cases Step.of_step h with
  | openTgt | breakTgt => cases ha
  | tick => rw [tick_tgt, tickTgt_eq]; exact h0
  | replayDone => rw [tgt_setTgt]; split <;> first | rfl | exact h0
  | @take t m => exact (tgt_proj_setTgt Target.started (by cases m <;> rfl) t0).trans h0
  | _ => first | exact h0 | exact (tgt_proj_setTgt Target.started (by rfl) t0).trans h0

def Act.keepsSrcFrame : Act → Bool
  | .recv _ _ _ | .openSrc _ | .breakSrc _ => false
  | _ => true

theorem step_src_frame {c : Cfg} {σ σ' : State} {a : Act} (ha : a.keepsSrcFrame = true)
    (h : step c σ a = some σ') (s0 : SId) :
    (σ'.src s0).lastHigh = (σ.src s0).lastHigh ∧ (σ'.src s0).active = (σ.src s0).active := by
  cases AF.step_src h s0 with
  | quiet q => exact ⟨q.high, q.active⟩
  | rack _ r | tick _ r => exact ⟨r.high, r.active⟩
  | recv | openSrc | breakSrc => cases ha

theorem Good.next {nt : Nat} {σ σ' : State} {a : Act} (hG : Good nt σ) (hr : StepEnv σ a) (hf : a.isFault = false)
    (hk : a.keepsStarted = true) (h : step c σ a = some σ') : Good nt σ' :=
  ⟨step_Inv2 hG.inv2 hr hf h, fun t ht => step_started hk h t (hG.started t ht)⟩

theorem eager_flags {a : Act} (h : a.isEager = true) :
    a.isFault = false ∧ a.keepsStarted = true ∧ a.keepsSrcFrame = true ∧ ∀ σ, StepEnv σ a := by
  cases a <;> first | (cases h; done) | exact ⟨rfl, rfl, rfl, fun _ => trivial⟩

theorem Good.eager_src {nt : Nat} {s : SId} {H : Int} {σ σ' : State} {a : Act} (hG : Good nt σ)
    (hs : (σ.src s).lastHigh = H) (hact : (σ.src s).active = true) (ha : a.isEager = true)
    (h : step c σ a = some σ') : Good nt σ' ∧ (σ'.src s).lastHigh = H ∧ (σ'.src s).active = true := by
  obtain ⟨h1, h2, h3, h4⟩ := eager_flags ha
  have hfr := step_src_frame h3 h s
  exact ⟨hG.next (h4 σ) h1 h2 h, hfr.1.trans hs, hfr.2.trans hact⟩

theorem Good.afterTack {nt : Nat} {σ σ' : State} {t : TId} {w : Int} (hG : Good nt σ)
    (h : step c σ (.tack t w) = some σ') : Good nt σ' :=
  hG.next (a := Act.tack t w) trivial rfl rfl h

theorem settled_idle {nt : Nat} {P : State → Prop} (hcap : 0 < c.chanCap) (hG : ∀ {σ}, P σ → Good nt σ)
    (hP : ∀ {σ a σ'}, P σ → a.isEager = true → step c σ a = some σ' → P σ') {σ : State} (h : P σ) :
    P (settleQ c σ) ∧ Idle (settleQ c σ) :=
  have h' : P (settleQ c σ) := settle_ind hP _ σ h
  ⟨h', idle_of_quiescent hcap (hG h') (settleQ_quiescent _ _)⟩

/-- what every action of a round keeps for the distinguished source `s` -/
structure Keep (nt : Nat) (s : SId) (H : Int) (σ : State) : Prop where
  good : Good nt σ
  act : (σ.src s).active = true
  le : (σ.src s).lastHigh ≤ H

theorem Keep.afterTack {nt : Nat} {s : SId} {H : Int} {σ σ' : State} {t : TId} {w : Int} (hK : Keep nt s H σ)
    (h : step c σ (.tack t w) = some σ') : Keep nt s H σ' :=
  have hfr := step_src_frame (a := .tack t w) rfl h s
  ⟨hK.good.afterTack h, hfr.2 ▸ hK.act, hfr.1 ▸ hK.le⟩

theorem Keep.eager {nt : Nat} {s : SId} {H : Int} {σ σ' : State} {a : Act} (hK : Keep nt s H σ)
    (ha : a.isEager = true) (h : step c σ a = some σ') : Keep nt s H σ' :=
  have ⟨hG, hs, hact⟩ := hK.good.eager_src rfl hK.act ha h
  ⟨hG, hact, hs ▸ hK.le⟩

theorem Keep.afterRecv {nt : Nat} {s : SId} {H : Int} {σ σ' : State} (hK : Keep nt s H σ) (h1 : 1 ≤ H)
    (h : step c σ (.recv s [] H) = some σ') : Keep nt s H σ' ∧ (σ'.src s).lastHigh = H := by
  have hG : Good nt σ' := hK.good.next (a := .recv s [] H) ⟨trivial, by simp, h1, hK.le⟩ rfl rfl h
  cases AF.step_src h s with
  | quiet _ _ hg => exact absurd rfl hg
  | recv _ _ r => exact ⟨⟨hG, r.active.trans hK.act, Int.le_of_eq r.high⟩, r.high⟩

theorem Keep.settled {nt : Nat} {s : SId} {H : Int} {σ : State} (hK : Keep nt s H σ) :
    Keep nt s H (settleQ Cfg.cur σ) ∧ Idle (settleQ Cfg.cur σ) :=
  settled_idle (by decide) Keep.good Keep.eager hK

theorem Keep.ackStepped {nt : Nat} {s : SId} {H : Int} {σ : State} (hcap : 0 < c.chanCap)
    (h : Keep nt s H σ ∧ Idle σ) (t : TId) : Keep nt s H (ackStepQ c σ t) ∧ Idle (ackStepQ c σ t) := by
  fun_cases ackStepQ c σ t with
  | case1 e =>
    refine settled_idle hcap Keep.good Keep.eager ?_
    cases hs : step c σ (.tack t e.high) with
    | none => exact h.1
    | some σ' => exact h.1.afterTack hs
  | case2 => exact h

theorem Keep.rounded {nt : Nat} {s : SId} {H : Int} {σ : State} (hcap : 0 < c.chanCap) (hK : Keep nt s H σ)
    (h1 : 1 ≤ H) :
    Keep nt s H (roundQ c s H σ) ∧ Idle (roundQ c s H σ) := by
  unfold roundQ ackEvQ
  refine List.foldlRecOn (motive := fun σ => Keep nt s H σ ∧ Idle σ) _ _ (settled_idle hcap Keep.good Keep.eager ?_)
    fun _ h t _ => Keep.ackStepped hcap h t
  cases hs : step c σ (.recv s [] H) with
  | none => exact hK
  | some σ' => exact (hK.afterRecv h1 hs).1

end S2S.Routing
