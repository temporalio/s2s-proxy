import S2S.Proofs.RoutingFaultBasic
/-! `InvF` along the hand-off into the send channels: `bcastStep`, `deliver`, `replayStep`. -/
namespace S2S.Routing

-- `σ.src s`, `σ.tgt t` stay folded: a failed unification of a changed record with them otherwise unfolds the lookup
attribute [local irreducible] State.src State.tgt

theorem TgtF.push {tg : Target} (h : TgtF tg) (hreg : tg.registered = true) (m : Msg) : TgtF (tg.push m) := by
  refine ⟨fun e => Bool.noConfusion (hreg.symm.trans e), h.asg_le, ?_, ?_⟩
  · exact forall_push (P := (· ∈ tg.handed ++ [m])) (fun m' hm' => List.mem_append_left _ (h.chan_handed m' hm'))
      (List.mem_append_right _ (List.mem_singleton_self m))
  · intro s id p hm
    show _ ∈ tasksOf (tg.handed ++ [m])
    rw [tasksOf_append]
    exact List.mem_append_left _ (h.asg_handed s id p hm)

theorem SrcF.bcast_next {M : Int} {x : Source} (hS : SrcF M x) {high : Int} {todo : List (TId × Nat)}
    (hpc : x.pc = .bcast high todo) (t : TId) : SrcF M { x with pc := pcDrop (.bcast high) todo t } := by
  refine hS.of_pc (fun h' _ t' y hy => ?_) (fun high' todo' e => ?_)
  · rw [show pendVals _ t' = [] from pendVals_pcDrop_bcast ..] at hy; cases hy
  · exact pcDrop_ind (P := fun pc => pc = .bcast high' todo' → high' ≤ x.lastHigh) nofun
      (fun _ e => by cases e; exact hS.bcast_le _ _ hpc) e

theorem PairF.bcast_next {N : Int → Prop} {M : Int} {s : SId} {t : TId} {x : Source} {tg : Target}
    (h : PairF N M s t x tg) {high : Int} {todo : List (TId × Nat)} (hpc : x.pc = .bcast high todo) (t' : TId) :
    PairF N M s t { x with pc := pcDrop (.bcast high) todo t' } tg := by
  refine h.of_flat_eq ?_
  simp only [flat, pendVals_pcDrop_bcast, hpc, pendVals_bcast]

theorem PairF.push_ne {N : Int → Prop} {M : Int} {s : SId} {t : TId} {x : Source} {tg : Target}
    (h : PairF N M s t x tg) {m : Msg} (hm : msgVals s m = []) : PairF N M s t x (tg.push m) := by
  refine h.of_flat_eq ?_
  simp only [flat, chanVals_push, hm, List.append_nil]

theorem PairF.push_wm {N : Int → Prop} {M : Int} {s : SId} {t : TId} {x : Source} {tg : Target}
    (h : PairF N M s t x tg) {w : Int} (hle : w ≤ M)
    (hlow : ∀ y ∈ pendVals x.pc t, y.2 = true → N y.1 → w ≤ y.1) : PairF N M s t x (tg.push (.wm s w)) := by
  have hf : flat s t x (tg.push (.wm s w)) = chanVals s tg.sendChan ++ (w, false) :: pendVals x.pc t := by
    simp only [flat, chanVals_push, msgVals_wm_self, List.append_assoc, List.singleton_append]
  have ⟨ha, hb⟩ := List.forall_mem_append.1 h.flat_le
  have hs := List.pairwise_append.1 h.sorted
  exact { h with
    cover := fun id hn => (h.cover id hn).imp_right fun hy => hf ▸ (List.mem_append.1 hy).elim
      (List.mem_append_left _) fun hy => List.mem_append_right _ (List.mem_cons_of_mem _ hy)
    sorted := hf ▸ List.pairwise_append.2 ⟨hs.1, List.pairwise_cons.2 ⟨hlow, hs.2.1⟩, fun a ha b hb =>
      (List.mem_cons.1 hb).elim (fun e => e ▸ nofun) (hs.2.2 a ha b)⟩
    flat_le := hf ▸ List.forall_mem_append.2 ⟨ha, List.forall_mem_cons.2 ⟨hle, hb⟩⟩ }

theorem invF_bcastStep {c : Cfg} {σ σ' : State} {γ : Ghost} (hI : InvF σ γ) {s : SId} {t : TId}
    (st : Step c σ (.bcastStep s t) σ') : InvF σ' γ := by
  have hS := hI.src s
  cases st with
  | bcastDrop _ _ hpc => exact hI.setSrc (hS.bcast_next hpc _) (fun t' => (hI.pair s t').bcast_next hpc _)
  | @bcastSend _ _ high _ _ hpc _ hreg =>
    refine hI.setBoth (src_lt_of_pc σ s (hpc ▸ nofun)) (tgt_lt_of_registered σ hreg) (hS.bcast_next hpc t)
      ((hI.tgt t).push hreg (.wm s high)) ?_ (fun t' _ => (hI.pair s t').bcast_next hpc t)
      (fun s' hne' => (hI.pair s' t).push_ne (msgVals_wm_ne hne' high))
    refine ((hI.pair s t).bcast_next hpc t).push_wm (Int.le_trans (hS.bcast_le _ _ hpc) hS.high_le) (fun y hy => ?_)
    rw [show pendVals _ t = [] from pendVals_pcDrop_bcast ..] at hy; cases hy

theorem invF_deliver {c : Cfg} {σ σ' : State} {γ : Ghost} (hI : InvF σ γ) {s : SId} {t : TId}
    (st : Step c σ (.deliver s t) σ') : InvF σ' γ := by
  cases st with | @deliver _ _ pending ids hpc hids hreg =>
  have hS := hI.src s
  refine hI.setBoth (src_lt_of_pc σ s (hpc ▸ nofun)) (tgt_lt_of_registered σ hreg) ?_
    ((hI.tgt t).push hreg (.tasks s ids)) ?_ (fun t' hne' => ?_)
    (fun s' hne' => (hI.pair s' t).push_ne (msgVals_tasks_ne hne' ids))
  · refine hS.of_pc (fun h' hw t' y hy => ?_) (fun high' todo' e => ?_)
    · rw [show pendVals _ t' = _ from pendVals_pcDrop_deliver pending t t', hpc.symm] at hy
      split at hy
      · cases hy
      · exact hS.wm_pend h' hw t' y hy
    · exact absurd e (pcDrop_ind (P := (· ≠ _)) nofun fun _ => nofun)
  · refine (hI.pair s t).of_flat_eq ?_
    simp only [flat, pendVals_pcDrop_deliver, if_true, chanVals_push, msgVals_tasks_self, hpc,
      pendVals_deliver_self hids, List.append_nil]
  · refine (hI.pair s t').of_flat_eq ?_
    simp only [flat, pendVals_pcDrop_deliver, hne', if_false, hpc]

/-- the replayed watermark is the current one, or a dead incarnation's final one: in both cases it is at most
    `maxHigh`, and no needed task still pending lies below it (`wm_pend`, `grave_low`) -/
theorem invF_replaySend {σ : State} {γ : Ghost} (hI : InvF σ γ) {t : TId} {s : SId} {todo todo' : List (SId × Nat)}
    {inc : Nat} {wm : Int} (htodo : (σ.tgt t).replayTodo = some todo) (hwm : (σ.src s).replayWm inc = some wm) :
    InvF (σ.setTgt t { (σ.tgt t).push (.wm s wm) with replayTodo := some todo' }) γ := by
  have hS := hI.src s
  have hreg := (hI.tgt t).registered_of_apply_ne Target.replayTodo (htodo ▸ nofun)
  have hlw : (wm ≤ γ.maxHighOf s) ∧
      ∀ y ∈ pendVals (σ.src s).pc t, y.2 = true → Need γ s t (σ.src s) y.1 → wm ≤ y.1 := by
    rcases Source.replayWm_cases hwm with ⟨-, hwm⟩ | hmem
    · exact ⟨Int.le_trans (hS.wm_le wm hwm) hS.high_le, fun y hy _ _ => hS.wm_pend wm hwm t y hy⟩
    · exact ⟨hS.grave_le inc wm hmem, fun y _ _ hn => (hI.pair s t).grave_low inc wm hmem y.1 hn⟩
  refine hI.setTgt (((hI.tgt t).push hreg (.wm s wm)).of_reg hreg) (fun s' => ?_)
  by_cases hs : s' = s
  · subst hs; exact ((hI.pair s' t).push_wm hlw.1 hlw.2).tgt_congr
  · exact ((hI.pair s' t).push_ne (msgVals_wm_ne hs wm)).tgt_congr

end S2S.Routing
