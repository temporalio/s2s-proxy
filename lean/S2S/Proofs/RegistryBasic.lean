import S2S.Spec.Registry
/-!
What `simp` knows in the C08 proofs: the value of every program-counter predicate on every constructor and the projections of
every update of `State` (all `rfl`); beside them the laws of the Go maps (assoc lists).
-/
namespace S2S.Registry

@[simp] theorem SPc.registering_start : SPc.start.registering = false := rfl
@[simp] theorem SPc.registering_set : SPc.set.registering = true := rfl
@[simp] theorem SPc.registering_added : SPc.added.registering = true := rfl
@[simp] theorem SPc.registering_notify (l : List Nat) (h : Option Nat) : (SPc.notify l h).registering = true := rfl
@[simp] theorem SPc.registering_running : SPc.running.registering = false := rfl
@[simp] theorem SPc.registering_closed : SPc.closed.registering = false := rfl
@[simp] theorem SPc.registering_unreg : SPc.unreg.registering = false := rfl
@[simp] theorem SPc.registering_rmChan : SPc.rmChan.registering = false := rfl
@[simp] theorem SPc.registering_done : SPc.done.registering = false := rfl
@[simp] theorem SPc.closing_start : SPc.start.closing = false := rfl
@[simp] theorem SPc.closing_set : SPc.set.closing = false := rfl
@[simp] theorem SPc.closing_added : SPc.added.closing = false := rfl
@[simp] theorem SPc.closing_notify (l : List Nat) (h : Option Nat) : (SPc.notify l h).closing = false := rfl
@[simp] theorem SPc.closing_running : SPc.running.closing = false := rfl
@[simp] theorem SPc.closing_closed : SPc.closed.closing = true := rfl
@[simp] theorem SPc.closing_unreg : SPc.unreg.closing = true := rfl
@[simp] theorem SPc.closing_rmChan : SPc.rmChan.closing = true := rfl
@[simp] theorem SPc.closing_done : SPc.done.closing = false := rfl
@[simp] theorem SPc.stamped_start : SPc.start.stamped = false := rfl
@[simp] theorem SPc.stamped_set : SPc.set.stamped = false := rfl
@[simp] theorem SPc.stamped_added : SPc.added.stamped = true := rfl
@[simp] theorem SPc.stamped_notify (l : List Nat) (h : Option Nat) : (SPc.notify l h).stamped = true := rfl
@[simp] theorem SPc.stamped_running : SPc.running.stamped = true := rfl
@[simp] theorem SPc.stamped_closed : SPc.closed.stamped = true := rfl
@[simp] theorem SPc.stamped_unreg : SPc.unreg.stamped = true := rfl
@[simp] theorem SPc.stamped_rmChan : SPc.rmChan.stamped = true := rfl
@[simp] theorem SPc.stamped_done : SPc.done.stamped = true := rfl
@[simp] theorem SPc.holdsLocal_start : SPc.start.holdsLocal = false := rfl
@[simp] theorem SPc.holdsLocal_set : SPc.set.holdsLocal = false := rfl
@[simp] theorem SPc.holdsLocal_added : SPc.added.holdsLocal = true := rfl
@[simp] theorem SPc.holdsLocal_notify (l : List Nat) (h : Option Nat) : (SPc.notify l h).holdsLocal = true := rfl
@[simp] theorem SPc.holdsLocal_running : SPc.running.holdsLocal = true := rfl
@[simp] theorem SPc.holdsLocal_closed : SPc.closed.holdsLocal = true := rfl
@[simp] theorem SPc.holdsLocal_unreg : SPc.unreg.holdsLocal = false := rfl
@[simp] theorem SPc.holdsLocal_rmChan : SPc.rmChan.holdsLocal = false := rfl
@[simp] theorem SPc.holdsLocal_done : SPc.done.holdsLocal = false := rfl
@[simp] theorem RPc.starting_start : RPc.start.starting = false := rfl
@[simp] theorem RPc.starting_term (g : Nat) : (RPc.term g).starting = true := rfl
@[simp] theorem RPc.starting_termRm : RPc.termRm.starting = true := rfl
@[simp] theorem RPc.starting_termAck : RPc.termAck.starting = true := rfl
@[simp] theorem RPc.starting_opening : RPc.opening.starting = true := rfl
@[simp] theorem RPc.starting_opened : RPc.opened.starting = true := rfl
@[simp] theorem RPc.starting_ackSet : RPc.ackSet.starting = true := rfl
@[simp] theorem RPc.starting_cancelSet : RPc.cancelSet.starting = true := rfl
@[simp] theorem RPc.starting_running : RPc.running.starting = false := rfl
@[simp] theorem RPc.starting_cleanCheck : RPc.cleanCheck.starting = false := rfl
@[simp] theorem RPc.starting_cleanCancel : RPc.cleanCancel.starting = false := rfl
@[simp] theorem RPc.starting_cleanActive : RPc.cleanActive.starting = false := rfl
@[simp] theorem RPc.starting_done : RPc.done.starting = false := rfl
@[simp] theorem RPc.cleaning_start : RPc.start.cleaning = false := rfl
@[simp] theorem RPc.cleaning_term (g : Nat) : (RPc.term g).cleaning = false := rfl
@[simp] theorem RPc.cleaning_termRm : RPc.termRm.cleaning = false := rfl
@[simp] theorem RPc.cleaning_termAck : RPc.termAck.cleaning = false := rfl
@[simp] theorem RPc.cleaning_opening : RPc.opening.cleaning = false := rfl
@[simp] theorem RPc.cleaning_opened : RPc.opened.cleaning = false := rfl
@[simp] theorem RPc.cleaning_ackSet : RPc.ackSet.cleaning = false := rfl
@[simp] theorem RPc.cleaning_cancelSet : RPc.cancelSet.cleaning = false := rfl
@[simp] theorem RPc.cleaning_running : RPc.running.cleaning = false := rfl
@[simp] theorem RPc.cleaning_cleanCheck : RPc.cleanCheck.cleaning = false := rfl
@[simp] theorem RPc.cleaning_cleanCancel : RPc.cleanCancel.cleaning = true := rfl
@[simp] theorem RPc.cleaning_cleanActive : RPc.cleanActive.cleaning = true := rfl
@[simp] theorem RPc.cleaning_done : RPc.done.cleaning = false := rfl

/-!
Spec's `starting` and `cleaning`, and the sets of program counters the invariants speak of (x: the predicate is `true`):

                 start term termRm termAck opening opened ackSet cancelSet running cleanCheck cleanCancel cleanActive done
    starting            x     x       x       x      x      x       x
    cleaning                                                                                      x           x
    sec          = starting or cleaning
    evicting                  x       x       x      x      x       x
    past                                                            x        x         x          x           x        x
    settled                                                                  x         x
    holdsAck                                                x       x        x
    holdsCancel                                                     x        x         x          x
    holdsActive                                                              x         x          x           x
-/

/-- inside a start-up or an (un-cancelled) clean-up -/
def RPc.sec (p : RPc) : Bool := p.starting || p.cleaning

/-- the receiver has registered its cancel function (it may have been evicted since) -/
def RPc.past : RPc → Bool
  | .start => false | .term _ => false | .termRm => false | .termAck => false | .opening => false | .opened => false
  | .ackSet => false | .cancelSet => true | .running => true | .cleanCheck => true | .cleanCancel => true
  | .cleanActive => true | .done => true

/-- a receiver inside its start-up, past the cancellation of its predecessor -/
def RPc.evicting : RPc → Bool
  | .start => false | .term _ => false | .termRm => true | .termAck => true | .opening => true | .opened => true
  | .ackSet => true | .cancelSet => true | .running => false | .cleanCheck => false | .cleanCancel => false
  | .cleanActive => false | .done => false

@[simp] theorem RPc.past_start : RPc.start.past = false := rfl
@[simp] theorem RPc.past_term (g : Nat) : (RPc.term g).past = false := rfl
@[simp] theorem RPc.past_termRm : RPc.termRm.past = false := rfl
@[simp] theorem RPc.past_termAck : RPc.termAck.past = false := rfl
@[simp] theorem RPc.past_opening : RPc.opening.past = false := rfl
@[simp] theorem RPc.past_opened : RPc.opened.past = false := rfl
@[simp] theorem RPc.past_ackSet : RPc.ackSet.past = false := rfl
@[simp] theorem RPc.past_cancelSet : RPc.cancelSet.past = true := rfl
@[simp] theorem RPc.past_running : RPc.running.past = true := rfl
@[simp] theorem RPc.past_cleanCheck : RPc.cleanCheck.past = true := rfl
@[simp] theorem RPc.past_cleanCancel : RPc.cleanCancel.past = true := rfl
@[simp] theorem RPc.past_cleanActive : RPc.cleanActive.past = true := rfl
@[simp] theorem RPc.past_done : RPc.done.past = true := rfl
@[simp] theorem RPc.evicting_start : RPc.start.evicting = false := rfl
@[simp] theorem RPc.evicting_term (g : Nat) : (RPc.term g).evicting = false := rfl
@[simp] theorem RPc.evicting_termRm : RPc.termRm.evicting = true := rfl
@[simp] theorem RPc.evicting_termAck : RPc.termAck.evicting = true := rfl
@[simp] theorem RPc.evicting_opening : RPc.opening.evicting = true := rfl
@[simp] theorem RPc.evicting_opened : RPc.opened.evicting = true := rfl
@[simp] theorem RPc.evicting_ackSet : RPc.ackSet.evicting = true := rfl
@[simp] theorem RPc.evicting_cancelSet : RPc.cancelSet.evicting = true := rfl
@[simp] theorem RPc.evicting_running : RPc.running.evicting = false := rfl
@[simp] theorem RPc.evicting_cleanCheck : RPc.cleanCheck.evicting = false := rfl
@[simp] theorem RPc.evicting_cleanCancel : RPc.cleanCancel.evicting = false := rfl
@[simp] theorem RPc.evicting_cleanActive : RPc.cleanActive.evicting = false := rfl
@[simp] theorem RPc.evicting_done : RPc.done.evicting = false := rfl

/-- registered, and inside neither section -/
def RPc.settled : RPc → Bool
  | .running | .cleanCheck => true
  | _ => false

@[simp] theorem RPc.settled_start : RPc.start.settled = false := rfl
@[simp] theorem RPc.settled_term (g : Nat) : (RPc.term g).settled = false := rfl
@[simp] theorem RPc.settled_termRm : RPc.termRm.settled = false := rfl
@[simp] theorem RPc.settled_termAck : RPc.termAck.settled = false := rfl
@[simp] theorem RPc.settled_opening : RPc.opening.settled = false := rfl
@[simp] theorem RPc.settled_opened : RPc.opened.settled = false := rfl
@[simp] theorem RPc.settled_ackSet : RPc.ackSet.settled = false := rfl
@[simp] theorem RPc.settled_cancelSet : RPc.cancelSet.settled = false := rfl
@[simp] theorem RPc.settled_running : RPc.running.settled = true := rfl
@[simp] theorem RPc.settled_cleanCheck : RPc.cleanCheck.settled = true := rfl
@[simp] theorem RPc.settled_cleanCancel : RPc.cleanCancel.settled = false := rfl
@[simp] theorem RPc.settled_cleanActive : RPc.cleanActive.settled = false := rfl
@[simp] theorem RPc.settled_done : RPc.done.settled = false := rfl

/-- the receiver's ack channel is registered and it will still remove it itself -/
def RPc.holdsAck : RPc → Bool
  | .start => false | .term _ => false | .termRm => false | .termAck => false | .opening => false | .opened => false
  | .ackSet => true | .cancelSet => true | .running => true | .cleanCheck => false | .cleanCancel => false
  | .cleanActive => false | .done => false

@[simp] theorem RPc.holdsAck_start : RPc.start.holdsAck = false := rfl
@[simp] theorem RPc.holdsAck_term (g : Nat) : (RPc.term g).holdsAck = false := rfl
@[simp] theorem RPc.holdsAck_termRm : RPc.termRm.holdsAck = false := rfl
@[simp] theorem RPc.holdsAck_termAck : RPc.termAck.holdsAck = false := rfl
@[simp] theorem RPc.holdsAck_opening : RPc.opening.holdsAck = false := rfl
@[simp] theorem RPc.holdsAck_opened : RPc.opened.holdsAck = false := rfl
@[simp] theorem RPc.holdsAck_ackSet : RPc.ackSet.holdsAck = true := rfl
@[simp] theorem RPc.holdsAck_cancelSet : RPc.cancelSet.holdsAck = true := rfl
@[simp] theorem RPc.holdsAck_running : RPc.running.holdsAck = true := rfl
@[simp] theorem RPc.holdsAck_cleanCheck : RPc.cleanCheck.holdsAck = false := rfl
@[simp] theorem RPc.holdsAck_cleanCancel : RPc.cleanCancel.holdsAck = false := rfl
@[simp] theorem RPc.holdsAck_cleanActive : RPc.cleanActive.holdsAck = false := rfl
@[simp] theorem RPc.holdsAck_done : RPc.done.holdsAck = false := rfl

/-- the receiver's cancel function is registered and it will still remove it itself -/
def RPc.holdsCancel : RPc → Bool
  | .start => false | .term _ => false | .termRm => false | .termAck => false | .opening => false | .opened => false
  | .ackSet => false | .cancelSet => true | .running => true | .cleanCheck => true | .cleanCancel => true
  | .cleanActive => false | .done => false

@[simp] theorem RPc.holdsCancel_start : RPc.start.holdsCancel = false := rfl
@[simp] theorem RPc.holdsCancel_term (g : Nat) : (RPc.term g).holdsCancel = false := rfl
@[simp] theorem RPc.holdsCancel_termRm : RPc.termRm.holdsCancel = false := rfl
@[simp] theorem RPc.holdsCancel_termAck : RPc.termAck.holdsCancel = false := rfl
@[simp] theorem RPc.holdsCancel_opening : RPc.opening.holdsCancel = false := rfl
@[simp] theorem RPc.holdsCancel_opened : RPc.opened.holdsCancel = false := rfl
@[simp] theorem RPc.holdsCancel_ackSet : RPc.ackSet.holdsCancel = false := rfl
@[simp] theorem RPc.holdsCancel_cancelSet : RPc.cancelSet.holdsCancel = true := rfl
@[simp] theorem RPc.holdsCancel_running : RPc.running.holdsCancel = true := rfl
@[simp] theorem RPc.holdsCancel_cleanCheck : RPc.cleanCheck.holdsCancel = true := rfl
@[simp] theorem RPc.holdsCancel_cleanCancel : RPc.cleanCancel.holdsCancel = true := rfl
@[simp] theorem RPc.holdsCancel_cleanActive : RPc.cleanActive.holdsCancel = false := rfl
@[simp] theorem RPc.holdsCancel_done : RPc.done.holdsCancel = false := rfl

/-- the receiver is the shard's active receiver and will still unregister itself (unless a successor cancels it) -/
def RPc.holdsActive : RPc → Bool
  | .start => false | .term _ => false | .termRm => false | .termAck => false | .opening => false | .opened => false
  | .ackSet => false | .cancelSet => false | .running => true | .cleanCheck => true | .cleanCancel => true
  | .cleanActive => true | .done => false

@[simp] theorem RPc.holdsActive_start : RPc.start.holdsActive = false := rfl
@[simp] theorem RPc.holdsActive_term (g : Nat) : (RPc.term g).holdsActive = false := rfl
@[simp] theorem RPc.holdsActive_termRm : RPc.termRm.holdsActive = false := rfl
@[simp] theorem RPc.holdsActive_termAck : RPc.termAck.holdsActive = false := rfl
@[simp] theorem RPc.holdsActive_opening : RPc.opening.holdsActive = false := rfl
@[simp] theorem RPc.holdsActive_opened : RPc.opened.holdsActive = false := rfl
@[simp] theorem RPc.holdsActive_ackSet : RPc.ackSet.holdsActive = false := rfl
@[simp] theorem RPc.holdsActive_cancelSet : RPc.cancelSet.holdsActive = false := rfl
@[simp] theorem RPc.holdsActive_running : RPc.running.holdsActive = true := rfl
@[simp] theorem RPc.holdsActive_cleanCheck : RPc.cleanCheck.holdsActive = true := rfl
@[simp] theorem RPc.holdsActive_cleanCancel : RPc.cleanCancel.holdsActive = true := rfl
@[simp] theorem RPc.holdsActive_cleanActive : RPc.cleanActive.holdsActive = true := rfl
@[simp] theorem RPc.holdsActive_done : RPc.done.holdsActive = false := rfl

@[simp] theorem setInc_next (σ : State) (i : Tok) (x : Inc) : (σ.setInc i x).next = σ.next := rfl
@[simp] theorem setInc_clock (σ : State) (i : Tok) (x : Inc) : (σ.setInc i x).clock = σ.clock := rfl
@[simp] theorem setInc_stopped (σ : State) (i : Tok) (x : Inc) : (σ.setInc i x).stopped = σ.stopped := rfl
@[simp] theorem setInc_localShards (σ : State) (i : Tok) (x : Inc) : (σ.setInc i x).localShards = σ.localShards := rfl
@[simp] theorem setInc_sendChans (σ : State) (i : Tok) (x : Inc) : (σ.setInc i x).sendChans = σ.sendChans := rfl
@[simp] theorem setInc_ackChans (σ : State) (i : Tok) (x : Inc) : (σ.setInc i x).ackChans = σ.ackChans := rfl
@[simp] theorem setInc_cancels (σ : State) (i : Tok) (x : Inc) : (σ.setInc i x).cancels = σ.cancels := rfl
@[simp] theorem setInc_actives (σ : State) (i : Tok) (x : Inc) : (σ.setInc i x).actives = σ.actives := rfl
@[simp] theorem setInc_crashed (σ : State) (i : Tok) (x : Inc) : (σ.setInc i x).crashed = σ.crashed := rfl
@[simp] theorem setInc_stolen (σ : State) (i : Tok) (x : Inc) : (σ.setInc i x).stolen = σ.stolen := rfl
@[simp] theorem setInc_caught (σ : State) (i : Tok) (x : Inc) : (σ.setInc i x).caught = σ.caught := rfl
@[simp] theorem setNext_next (σ : State) (n : Tok) : (σ.setNext n).next = n := rfl
@[simp] theorem setNext_clock (σ : State) (n : Tok) : (σ.setNext n).clock = σ.clock := rfl
@[simp] theorem setNext_stopped (σ : State) (n : Tok) : (σ.setNext n).stopped = σ.stopped := rfl
@[simp] theorem setNext_localShards (σ : State) (n : Tok) : (σ.setNext n).localShards = σ.localShards := rfl
@[simp] theorem setNext_sendChans (σ : State) (n : Tok) : (σ.setNext n).sendChans = σ.sendChans := rfl
@[simp] theorem setNext_ackChans (σ : State) (n : Tok) : (σ.setNext n).ackChans = σ.ackChans := rfl
@[simp] theorem setNext_cancels (σ : State) (n : Tok) : (σ.setNext n).cancels = σ.cancels := rfl
@[simp] theorem setNext_actives (σ : State) (n : Tok) : (σ.setNext n).actives = σ.actives := rfl
@[simp] theorem setNext_crashed (σ : State) (n : Tok) : (σ.setNext n).crashed = σ.crashed := rfl
@[simp] theorem setNext_stolen (σ : State) (n : Tok) : (σ.setNext n).stolen = σ.stolen := rfl
@[simp] theorem setNext_caught (σ : State) (n : Tok) : (σ.setNext n).caught = σ.caught := rfl
@[simp] theorem setNext_inc (σ : State) (n : Tok) (j : Tok) : (σ.setNext n).inc j = σ.inc j := rfl
@[simp] theorem setClock_next (σ : State) (n : Nat) : (σ.setClock n).next = σ.next := rfl
@[simp] theorem setClock_clock (σ : State) (n : Nat) : (σ.setClock n).clock = n := rfl
@[simp] theorem setClock_stopped (σ : State) (n : Nat) : (σ.setClock n).stopped = σ.stopped := rfl
@[simp] theorem setClock_localShards (σ : State) (n : Nat) : (σ.setClock n).localShards = σ.localShards := rfl
@[simp] theorem setClock_sendChans (σ : State) (n : Nat) : (σ.setClock n).sendChans = σ.sendChans := rfl
@[simp] theorem setClock_ackChans (σ : State) (n : Nat) : (σ.setClock n).ackChans = σ.ackChans := rfl
@[simp] theorem setClock_cancels (σ : State) (n : Nat) : (σ.setClock n).cancels = σ.cancels := rfl
@[simp] theorem setClock_actives (σ : State) (n : Nat) : (σ.setClock n).actives = σ.actives := rfl
@[simp] theorem setClock_crashed (σ : State) (n : Nat) : (σ.setClock n).crashed = σ.crashed := rfl
@[simp] theorem setClock_stolen (σ : State) (n : Nat) : (σ.setClock n).stolen = σ.stolen := rfl
@[simp] theorem setClock_caught (σ : State) (n : Nat) : (σ.setClock n).caught = σ.caught := rfl
@[simp] theorem setClock_inc (σ : State) (n : Nat) (j : Tok) : (σ.setClock n).inc j = σ.inc j := rfl
@[simp] theorem setStopped_next (σ : State)  : (σ.setStopped ).next = σ.next := rfl
@[simp] theorem setStopped_clock (σ : State)  : (σ.setStopped ).clock = σ.clock := rfl
@[simp] theorem setStopped_stopped (σ : State)  : (σ.setStopped ).stopped = true := rfl
@[simp] theorem setStopped_localShards (σ : State)  : (σ.setStopped ).localShards = σ.localShards := rfl
@[simp] theorem setStopped_sendChans (σ : State)  : (σ.setStopped ).sendChans = σ.sendChans := rfl
@[simp] theorem setStopped_ackChans (σ : State)  : (σ.setStopped ).ackChans = σ.ackChans := rfl
@[simp] theorem setStopped_cancels (σ : State)  : (σ.setStopped ).cancels = σ.cancels := rfl
@[simp] theorem setStopped_actives (σ : State)  : (σ.setStopped ).actives = σ.actives := rfl
@[simp] theorem setStopped_crashed (σ : State)  : (σ.setStopped ).crashed = σ.crashed := rfl
@[simp] theorem setStopped_stolen (σ : State)  : (σ.setStopped ).stolen = σ.stolen := rfl
@[simp] theorem setStopped_caught (σ : State)  : (σ.setStopped ).caught = σ.caught := rfl
@[simp] theorem setStopped_inc (σ : State)  (j : Tok) : (σ.setStopped ).inc j = σ.inc j := rfl
@[simp] theorem setLocal_next (σ : State) (l : List (Shard × (Tok × Nat))) : (σ.setLocal l).next = σ.next := rfl
@[simp] theorem setLocal_clock (σ : State) (l : List (Shard × (Tok × Nat))) : (σ.setLocal l).clock = σ.clock := rfl
@[simp] theorem setLocal_stopped (σ : State) (l : List (Shard × (Tok × Nat))) : (σ.setLocal l).stopped = σ.stopped := rfl
@[simp] theorem setLocal_localShards (σ : State) (l : List (Shard × (Tok × Nat))) : (σ.setLocal l).localShards = l := rfl
@[simp] theorem setLocal_sendChans (σ : State) (l : List (Shard × (Tok × Nat))) : (σ.setLocal l).sendChans = σ.sendChans := rfl
@[simp] theorem setLocal_ackChans (σ : State) (l : List (Shard × (Tok × Nat))) : (σ.setLocal l).ackChans = σ.ackChans := rfl
@[simp] theorem setLocal_cancels (σ : State) (l : List (Shard × (Tok × Nat))) : (σ.setLocal l).cancels = σ.cancels := rfl
@[simp] theorem setLocal_actives (σ : State) (l : List (Shard × (Tok × Nat))) : (σ.setLocal l).actives = σ.actives := rfl
@[simp] theorem setLocal_crashed (σ : State) (l : List (Shard × (Tok × Nat))) : (σ.setLocal l).crashed = σ.crashed := rfl
@[simp] theorem setLocal_stolen (σ : State) (l : List (Shard × (Tok × Nat))) : (σ.setLocal l).stolen = σ.stolen := rfl
@[simp] theorem setLocal_caught (σ : State) (l : List (Shard × (Tok × Nat))) : (σ.setLocal l).caught = σ.caught := rfl
@[simp] theorem setLocal_inc (σ : State) (l : List (Shard × (Tok × Nat))) (j : Tok) : (σ.setLocal l).inc j = σ.inc j := rfl
@[simp] theorem setSend_next (σ : State) (l : List (Shard × Tok)) : (σ.setSend l).next = σ.next := rfl
@[simp] theorem setSend_clock (σ : State) (l : List (Shard × Tok)) : (σ.setSend l).clock = σ.clock := rfl
@[simp] theorem setSend_stopped (σ : State) (l : List (Shard × Tok)) : (σ.setSend l).stopped = σ.stopped := rfl
@[simp] theorem setSend_localShards (σ : State) (l : List (Shard × Tok)) : (σ.setSend l).localShards = σ.localShards := rfl
@[simp] theorem setSend_sendChans (σ : State) (l : List (Shard × Tok)) : (σ.setSend l).sendChans = l := rfl
@[simp] theorem setSend_ackChans (σ : State) (l : List (Shard × Tok)) : (σ.setSend l).ackChans = σ.ackChans := rfl
@[simp] theorem setSend_cancels (σ : State) (l : List (Shard × Tok)) : (σ.setSend l).cancels = σ.cancels := rfl
@[simp] theorem setSend_actives (σ : State) (l : List (Shard × Tok)) : (σ.setSend l).actives = σ.actives := rfl
@[simp] theorem setSend_crashed (σ : State) (l : List (Shard × Tok)) : (σ.setSend l).crashed = σ.crashed := rfl
@[simp] theorem setSend_stolen (σ : State) (l : List (Shard × Tok)) : (σ.setSend l).stolen = σ.stolen := rfl
@[simp] theorem setSend_caught (σ : State) (l : List (Shard × Tok)) : (σ.setSend l).caught = σ.caught := rfl
@[simp] theorem setSend_inc (σ : State) (l : List (Shard × Tok)) (j : Tok) : (σ.setSend l).inc j = σ.inc j := rfl
@[simp] theorem setAck_next (σ : State) (l : List (Shard × Tok)) : (σ.setAck l).next = σ.next := rfl
@[simp] theorem setAck_clock (σ : State) (l : List (Shard × Tok)) : (σ.setAck l).clock = σ.clock := rfl
@[simp] theorem setAck_stopped (σ : State) (l : List (Shard × Tok)) : (σ.setAck l).stopped = σ.stopped := rfl
@[simp] theorem setAck_localShards (σ : State) (l : List (Shard × Tok)) : (σ.setAck l).localShards = σ.localShards := rfl
@[simp] theorem setAck_sendChans (σ : State) (l : List (Shard × Tok)) : (σ.setAck l).sendChans = σ.sendChans := rfl
@[simp] theorem setAck_ackChans (σ : State) (l : List (Shard × Tok)) : (σ.setAck l).ackChans = l := rfl
@[simp] theorem setAck_cancels (σ : State) (l : List (Shard × Tok)) : (σ.setAck l).cancels = σ.cancels := rfl
@[simp] theorem setAck_actives (σ : State) (l : List (Shard × Tok)) : (σ.setAck l).actives = σ.actives := rfl
@[simp] theorem setAck_crashed (σ : State) (l : List (Shard × Tok)) : (σ.setAck l).crashed = σ.crashed := rfl
@[simp] theorem setAck_stolen (σ : State) (l : List (Shard × Tok)) : (σ.setAck l).stolen = σ.stolen := rfl
@[simp] theorem setAck_caught (σ : State) (l : List (Shard × Tok)) : (σ.setAck l).caught = σ.caught := rfl
@[simp] theorem setAck_inc (σ : State) (l : List (Shard × Tok)) (j : Tok) : (σ.setAck l).inc j = σ.inc j := rfl
@[simp] theorem setCancels_next (σ : State) (l : List (Shard × Tok)) : (σ.setCancels l).next = σ.next := rfl
@[simp] theorem setCancels_clock (σ : State) (l : List (Shard × Tok)) : (σ.setCancels l).clock = σ.clock := rfl
@[simp] theorem setCancels_stopped (σ : State) (l : List (Shard × Tok)) : (σ.setCancels l).stopped = σ.stopped := rfl
@[simp] theorem setCancels_localShards (σ : State) (l : List (Shard × Tok)) : (σ.setCancels l).localShards = σ.localShards := rfl
@[simp] theorem setCancels_sendChans (σ : State) (l : List (Shard × Tok)) : (σ.setCancels l).sendChans = σ.sendChans := rfl
@[simp] theorem setCancels_ackChans (σ : State) (l : List (Shard × Tok)) : (σ.setCancels l).ackChans = σ.ackChans := rfl
@[simp] theorem setCancels_cancels (σ : State) (l : List (Shard × Tok)) : (σ.setCancels l).cancels = l := rfl
@[simp] theorem setCancels_actives (σ : State) (l : List (Shard × Tok)) : (σ.setCancels l).actives = σ.actives := rfl
@[simp] theorem setCancels_crashed (σ : State) (l : List (Shard × Tok)) : (σ.setCancels l).crashed = σ.crashed := rfl
@[simp] theorem setCancels_stolen (σ : State) (l : List (Shard × Tok)) : (σ.setCancels l).stolen = σ.stolen := rfl
@[simp] theorem setCancels_caught (σ : State) (l : List (Shard × Tok)) : (σ.setCancels l).caught = σ.caught := rfl
@[simp] theorem setCancels_inc (σ : State) (l : List (Shard × Tok)) (j : Tok) : (σ.setCancels l).inc j = σ.inc j := rfl
@[simp] theorem setActives_next (σ : State) (l : List (Shard × Tok)) : (σ.setActives l).next = σ.next := rfl
@[simp] theorem setActives_clock (σ : State) (l : List (Shard × Tok)) : (σ.setActives l).clock = σ.clock := rfl
@[simp] theorem setActives_stopped (σ : State) (l : List (Shard × Tok)) : (σ.setActives l).stopped = σ.stopped := rfl
@[simp] theorem setActives_localShards (σ : State) (l : List (Shard × Tok)) : (σ.setActives l).localShards = σ.localShards := rfl
@[simp] theorem setActives_sendChans (σ : State) (l : List (Shard × Tok)) : (σ.setActives l).sendChans = σ.sendChans := rfl
@[simp] theorem setActives_ackChans (σ : State) (l : List (Shard × Tok)) : (σ.setActives l).ackChans = σ.ackChans := rfl
@[simp] theorem setActives_cancels (σ : State) (l : List (Shard × Tok)) : (σ.setActives l).cancels = σ.cancels := rfl
@[simp] theorem setActives_actives (σ : State) (l : List (Shard × Tok)) : (σ.setActives l).actives = l := rfl
@[simp] theorem setActives_crashed (σ : State) (l : List (Shard × Tok)) : (σ.setActives l).crashed = σ.crashed := rfl
@[simp] theorem setActives_stolen (σ : State) (l : List (Shard × Tok)) : (σ.setActives l).stolen = σ.stolen := rfl
@[simp] theorem setActives_caught (σ : State) (l : List (Shard × Tok)) : (σ.setActives l).caught = σ.caught := rfl
@[simp] theorem setActives_inc (σ : State) (l : List (Shard × Tok)) (j : Tok) : (σ.setActives l).inc j = σ.inc j := rfl
@[simp] theorem setCrashed_next (σ : State)  : (σ.setCrashed ).next = σ.next := rfl
@[simp] theorem setCrashed_clock (σ : State)  : (σ.setCrashed ).clock = σ.clock := rfl
@[simp] theorem setCrashed_stopped (σ : State)  : (σ.setCrashed ).stopped = σ.stopped := rfl
@[simp] theorem setCrashed_localShards (σ : State)  : (σ.setCrashed ).localShards = σ.localShards := rfl
@[simp] theorem setCrashed_sendChans (σ : State)  : (σ.setCrashed ).sendChans = σ.sendChans := rfl
@[simp] theorem setCrashed_ackChans (σ : State)  : (σ.setCrashed ).ackChans = σ.ackChans := rfl
@[simp] theorem setCrashed_cancels (σ : State)  : (σ.setCrashed ).cancels = σ.cancels := rfl
@[simp] theorem setCrashed_actives (σ : State)  : (σ.setCrashed ).actives = σ.actives := rfl
@[simp] theorem setCrashed_crashed (σ : State)  : (σ.setCrashed ).crashed = true := rfl
@[simp] theorem setCrashed_stolen (σ : State)  : (σ.setCrashed ).stolen = σ.stolen := rfl
@[simp] theorem setCrashed_caught (σ : State)  : (σ.setCrashed ).caught = σ.caught := rfl
@[simp] theorem setCrashed_inc (σ : State)  (j : Tok) : (σ.setCrashed ).inc j = σ.inc j := rfl
@[simp] theorem addStolen_next (σ : State) (y : Tok × Reg × Tok) : (σ.addStolen y).next = σ.next := rfl
@[simp] theorem addStolen_clock (σ : State) (y : Tok × Reg × Tok) : (σ.addStolen y).clock = σ.clock := rfl
@[simp] theorem addStolen_stopped (σ : State) (y : Tok × Reg × Tok) : (σ.addStolen y).stopped = σ.stopped := rfl
@[simp] theorem addStolen_localShards (σ : State) (y : Tok × Reg × Tok) : (σ.addStolen y).localShards = σ.localShards := rfl
@[simp] theorem addStolen_sendChans (σ : State) (y : Tok × Reg × Tok) : (σ.addStolen y).sendChans = σ.sendChans := rfl
@[simp] theorem addStolen_ackChans (σ : State) (y : Tok × Reg × Tok) : (σ.addStolen y).ackChans = σ.ackChans := rfl
@[simp] theorem addStolen_cancels (σ : State) (y : Tok × Reg × Tok) : (σ.addStolen y).cancels = σ.cancels := rfl
@[simp] theorem addStolen_actives (σ : State) (y : Tok × Reg × Tok) : (σ.addStolen y).actives = σ.actives := rfl
@[simp] theorem addStolen_crashed (σ : State) (y : Tok × Reg × Tok) : (σ.addStolen y).crashed = σ.crashed := rfl
@[simp] theorem addStolen_stolen (σ : State) (y : Tok × Reg × Tok) : (σ.addStolen y).stolen = σ.stolen ++ [y] := rfl
@[simp] theorem addStolen_caught (σ : State) (y : Tok × Reg × Tok) : (σ.addStolen y).caught = σ.caught := rfl
@[simp] theorem addStolen_inc (σ : State) (y : Tok × Reg × Tok) (j : Tok) : (σ.addStolen y).inc j = σ.inc j := rfl
@[simp] theorem incCaught_next (σ : State)  : (σ.incCaught ).next = σ.next := rfl
@[simp] theorem incCaught_clock (σ : State)  : (σ.incCaught ).clock = σ.clock := rfl
@[simp] theorem incCaught_stopped (σ : State)  : (σ.incCaught ).stopped = σ.stopped := rfl
@[simp] theorem incCaught_localShards (σ : State)  : (σ.incCaught ).localShards = σ.localShards := rfl
@[simp] theorem incCaught_sendChans (σ : State)  : (σ.incCaught ).sendChans = σ.sendChans := rfl
@[simp] theorem incCaught_ackChans (σ : State)  : (σ.incCaught ).ackChans = σ.ackChans := rfl
@[simp] theorem incCaught_cancels (σ : State)  : (σ.incCaught ).cancels = σ.cancels := rfl
@[simp] theorem incCaught_actives (σ : State)  : (σ.incCaught ).actives = σ.actives := rfl
@[simp] theorem incCaught_crashed (σ : State)  : (σ.incCaught ).crashed = σ.crashed := rfl
@[simp] theorem incCaught_stolen (σ : State)  : (σ.incCaught ).stolen = σ.stolen := rfl
@[simp] theorem incCaught_caught (σ : State)  : (σ.incCaught ).caught = σ.caught + 1 := rfl
@[simp] theorem incCaught_inc (σ : State)  (j : Tok) : (σ.incCaught ).inc j = σ.inc j := rfl

theorem newest_some {p : Tok → Bool} {n i : Tok} (h : newest p n = some i) : i < n ∧ p i = true := by
  fun_induction newest p n <;> simp_all <;> omega

theorem newest_none {p : Tok → Bool} {n : Tok} (h : newest p n = none) (j : Tok) (hj : j < n) : p j = false := by
  fun_induction newest p n <;> simp_all
  next hp ih => exact (Nat.lt_succ_iff_lt_or_eq.1 hj).elim ih (· ▸ hp)

theorem aget_aset {α} (l : List (Nat × α)) (k k' : Nat) (v : α) :
    aget (aset l k v) k' = if k = k' then some v else aget l k' := by
  induction l with
  | nil => simp [aset, aget]
  | cons p r ih => by_cases h : p.1 = k <;> by_cases h' : k = k' <;> simp_all [aset, aget]

theorem aget_adel {α} (l : List (Nat × α)) (k k' : Nat) :
    aget (adel l k) k' = if k = k' then none else aget l k' := by
  induction l with
  | nil => simp [adel, aget]
  | cons p r ih => by_cases h : p.1 = k <;> by_cases h' : k = k' <;> simp_all [adel, aget]

@[simp] theorem inc_setInc (σ : State) (i j : Tok) (x : Inc) :
    (σ.setInc i x).inc j = if i = j then x else σ.inc j := by
  simp only [State.inc, State.setInc, aget_aset]; split <;> rfl

theorem inc_init (j : Tok) : State.init.inc j = {} := rfl

@[simp] theorem down_setStopped (σ : State) (j : Tok) : σ.setStopped.down j = true := by
  simp [State.down, State.setStopped]

/-- one conjunction per function: `simp` takes every conjunct as a rewrite rule -/
@[simp] theorem steal_same (σ : State) (i : Tok) (g : Reg) (v : Option Tok) :
    (steal σ i g v).next = σ.next ∧ (steal σ i g v).stopped = σ.stopped ∧ (steal σ i g v).localShards = σ.localShards ∧
    (steal σ i g v).sendChans = σ.sendChans ∧ (steal σ i g v).ackChans = σ.ackChans ∧ (steal σ i g v).cancels = σ.cancels ∧
    (steal σ i g v).actives = σ.actives ∧ (steal σ i g v).crashed = σ.crashed ∧ ∀ j, (steal σ i g v).inc j = σ.inc j := by
  fun_cases steal σ i g v <;> simp
@[simp] theorem sendOn_same (σ : State) (t : Tok) (r : Bool) :
    (sendOn σ t r).next = σ.next ∧ (sendOn σ t r).stopped = σ.stopped ∧ (sendOn σ t r).localShards = σ.localShards ∧
    (sendOn σ t r).sendChans = σ.sendChans ∧ (sendOn σ t r).ackChans = σ.ackChans ∧ (sendOn σ t r).cancels = σ.cancels ∧
    (sendOn σ t r).actives = σ.actives ∧ (sendOn σ t r).stolen = σ.stolen ∧ ∀ j, (sendOn σ t r).inc j = σ.inc j := by
  fun_cases sendOn σ t r <;> simp
@[simp] theorem steal_clock (σ : State) (i : Tok) (g : Reg) (v : Option Tok) : (steal σ i g v).clock = σ.clock := by
  fun_cases steal σ i g v <;> rfl
@[simp] theorem sendOn_clock (σ : State) (t : Tok) (r : Bool) : (sendOn σ t r).clock = σ.clock := by
  fun_cases sendOn σ t r <;> rfl
@[simp] theorem steal_caught (σ : State) (i : Tok) (g : Reg) (v : Option Tok) : (steal σ i g v).caught = σ.caught := by
  fun_cases steal σ i g v <;> rfl
theorem steal_stolen_nil {σ : State} {i : Tok} {g : Reg} {v : Option Tok} (h : σ.stolen = []) (hv : v = some i) :
    (steal σ i g v).stolen = [] := by
  subst hv; simp [steal, h]
theorem sendOn_crashed_open {σ : State} {t : Tok} {r : Bool} (h : (σ.inc t).closed = false) : (sendOn σ t r).crashed = σ.crashed := by
  unfold sendOn; simp [h]
theorem sendOn_crashed_recover {σ : State} {t : Tok} : (sendOn σ t true).crashed = σ.crashed := by
  unfold sendOn; split <;> rfl

end S2S.Registry
